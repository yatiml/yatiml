-- Root of the `YatimlModel` library (model, generated tables, specs, lemmas, property theorems).
import YatimlModel.Model.Regex
import YatimlModel.Model.Resolver
import YatimlModel.Lemmas.RegexRep
import YatimlModel.Lemmas.RegexDecide
import YatimlModel.Gen.LoaderResolvers
import YatimlModel.Gen.DumperResolvers
import YatimlModel.Spec.Yaml12
import YatimlModel.Lemmas.RegexBeq
import YatimlModel.Lemmas.ResolverPrune
import YatimlModel.Gen.PyyamlResolvers
import YatimlModel.Gen.Tags
import YatimlModel.Model.Wire
import YatimlModel.Model.Json
import YatimlModel.Model.JsonString
import YatimlModel.Lemmas.JsonRefine
import YatimlModel.Lemmas.JsonStringLemmas
import YatimlModel.Spec.JsonCanon
import YatimlModel.Props.C09
import YatimlModel.Props.C07
import YatimlModel.Model.Node
import YatimlModel.Lemmas.CoreTagsAttr
import YatimlModel.Lemmas.CoreTags
import YatimlModel.Model.Scalars
import YatimlModel.Model.NodeOps
import YatimlModel.Model.Transforms
import YatimlModel.Props.C14
import YatimlModel.Props.C15
import YatimlModel.Model.Types
import YatimlModel.Model.Recognize
import YatimlModel.Model.Process
import YatimlModel.Model.Construct
import YatimlModel.Model.Load
import YatimlModel.Lemmas.Env
import YatimlModel.Lemmas.RecFolds
import YatimlModel.Lemmas.RecSound
import YatimlModel.Lemmas.RecNoHook
import YatimlModel.Props.C03
import YatimlModel.Props.C08
import YatimlModel.Lemmas.Values
import YatimlModel.Lemmas.ConsAll
import YatimlModel.Lemmas.ProcAll
import YatimlModel.Lemmas.PlainData
import YatimlModel.Props.C01
import YatimlModel.Props.C04
import YatimlModel.Props.C10
import YatimlModel.Props.C13
import YatimlModel.Props.C18
import YatimlModel.Props.C18Cycle
import YatimlModel.Props.C16
import YatimlModel.Props.C17
import YatimlModel.Model.Represent
import YatimlModel.Props.C05
import YatimlModel.Props.C06
import YatimlModel.Model.CallSites
import YatimlModel.Gen.CallSites
import YatimlModel.Props.C12
import YatimlModel.Model.Registry
import YatimlModel.Gen.Registry
import YatimlModel.Lemmas.RegistrySafe
import YatimlModel.Lemmas.RegistryHistory
import YatimlModel.Props.C11
import YatimlModel.Spec.Pipeline
import YatimlModel.Spec.AliasShape
import YatimlModel.Lemmas.RecComplete
import YatimlModel.Props.C02
import YatimlModel.Lemmas.RecPerm
import YatimlModel.Lemmas.LoadPerm
import YatimlModel.Lemmas.Conforms
import YatimlModel.Lemmas.AttrOps
import YatimlModel.Lemmas.Reach
import YatimlModel.Lemmas.RegexLang
import YatimlModel.Lemmas.Unrelated
import YatimlModel.Lemmas.All2
import YatimlModel.Lemmas.Represent
import YatimlModel.Lemmas.RoundTrip
import YatimlModel.Lemmas.IntText
import YatimlModel.Props.C05RoundTrip
import YatimlModel.Spec.JsonParse
import YatimlModel.Lemmas.JsonTextAttr
import YatimlModel.Lemmas.JsonText
import YatimlModel.Lemmas.JsonParse
import YatimlModel.Props.C07Parse
import YatimlModel.Spec.JsonProjection
import YatimlModel.Props.C07EndToEnd
import YatimlModel.Lemmas.IntNumber
import YatimlModel.Lemmas.KindErase
import YatimlModel.Props.C07Ascii
import YatimlModel.Props.C05Plain
import YatimlModel.Props.C05Objects.Classes
import YatimlModel.Props.C05Objects.Typed
import YatimlModel.Props.C05Objects.RecClasses
import YatimlModel.Props.C05Objects.RecUnion
import YatimlModel.Props.C05Objects.ObjNode
import YatimlModel.Props.C05Objects.Described
import YatimlModel.Props.C05Objects.Examples
import YatimlModel.Props.C05Objects
import YatimlModel.Props.C06Tree
