import YatimlModel.Lemmas.Unrelated
import YatimlModel.Lemmas.KindErase
import YatimlModel.Lemmas.RecComplete
/-!
# C13 — load is invariant under changes that do not alter the document's meaning

Proved on the model: recognising a mapping as an (auto-recognised) class does not depend on the order of
its keys; the tag a recognised type is given does not depend on which of List/Sequence/MutableSequence
or Dict/Mapping/MutableMapping was written; `bool_union_fix` next to `bool` never changes the set of
recognised types; registering an unrelated class changes no answer of the recogniser; the container
spellings are interchangeable for the documented language and for being recognised at all.  Styles are not
part of the model at all (no code path reads them).  Checked on the real code: re-serialisation, and
unrelated classes, kinds and `bool_union_fix` through the whole pipeline.
-/
namespace YatimlModel.C13
open NodeOps

theorem hasKey_perm {ps ps' : List (Node × Node)} (h : ps.Perm ps') (a : String) :
    hasKey ps a = hasKey ps' a :=
  h.any_eq

theorem valuesOf_perm {ps ps' : List (Node × Node)} (h : ps.Perm ps') (a : String) :
    (valuesOf ps a).Perm (valuesOf ps' a) := by
  unfold valuesOf
  exact (h.filter _).map _

theorem valueVerdict_perm (rec : Node → Ty → RecRes) {ps ps' : List (Node × Node)} (h : ps.Perm ps')
    (ty : Ty) (name : String) : valueVerdict rec ps ty name = valueVerdict rec ps' ty name := by
  have hv := valuesOf_perm h name
  unfold valueVerdict
  split
  · next v hv1 =>
    rw [hv1] at hv
    rw [← List.singleton_perm.mp hv]
  · next hne =>
    split
    · next v' hv2 =>
      rw [hv2] at hv
      exact absurd (List.perm_singleton.mp hv) (hne v')
    · rfl

/-- **Key order.**  Recognising a mapping as an automatically recognised class gives the same answer for
every permutation of its key/value pairs. -/
theorem C13_key_order_recognition (env : Env) (rec : Node → Ty → RecRes) (t : String) (m : Mark)
    {ps ps' : List (Node × Node)} (h : ps.Perm ps') (d : ClassDef) (hauto : d.recognize = none) :
    recUserClass env rec (.map t (Pairs.ofList ps) m) d = recUserClass env rec (.map t (Pairs.ofList ps') m) d := by
  have hattrs : recAttrs rec (.map t (Pairs.ofList ps) m) ps d.params
      = recAttrs rec (.map t (Pairs.ofList ps') m) ps' d.params := by
    rw [recAttrs_eq, recAttrs_eq]
    refine congrArg firstSome (List.map_congr_left fun p _ => ?_)
    rw [recAttr_eq, recAttr_eq, hasKey_perm h, hasKey_perm h, valueVerdict_perm rec h, valueVerdict_perm rec h]
    rfl
  unfold recUserClass
  simp only [hauto, Pairs.toList_ofList, hattrs, Node.mark]

/-- **Interchangeable container annotations**: the tag given to a recognised sequence / mapping type does
not depend on the kind written in the annotation. -/
theorem C13_typeToTag_kind (env : Env) (k k' : SeqKind) (i i' : Ty) (mk mk' : MapKind) (a b a' b' : Ty) :
    typeToTag env (.seq k i) = typeToTag env (.seq k' i') ∧
    typeToTag env (.map mk a b) = typeToTag env (.map mk' a' b') := ⟨rfl, rfl⟩

/-- **bool_union_fix.**  Adding `bool_union_fix` to what a Union containing `bool` recognises changes
nothing: it is dropped whenever `bool` is recognised too, and it is recognised exactly when `bool` is. -/
theorem C13_bool_union_fix :
    (∀ n : Node, ((recScalar n .boolFix tBool).toOption.map (fun r => r.1.length)) =
      ((recScalar n .bool tBool).toOption.map (fun r => r.1.length))) ∧
    ∀ ts : List Ty, ts.contains .bool = true → Ty.boolFix ∉ dropBoolFix (insertT .boolFix ts) := by
  constructor
  · intro n
    rw [recScalar_eq, recScalar_eq]
    cases Spec.scalarTagged n tBool <;> rfl
  · intro ts hb hmem
    have h1 := (mem_insertT .bool .boolFix ts).mpr (Or.inr (List.contains_iff_mem.mp hb))
    have h2 := (mem_insertT .boolFix .boolFix ts).mpr (Or.inl rfl)
    rw [dropBoolFix, List.contains_iff_mem.mpr h1, List.contains_iff_mem.mpr h2, Bool.and_self, if_pos rfl] at hmem
    exact nomatch (List.mem_filter.mp hmem).2

/-- **Unrelated classes.**  Registering one more class that has a new name, is not derived from a
registered class and is not mentioned by any registered class (parameter types, custom recognisers)
leaves recognition of every node that is not tagged with the new class, against every type that does not
mention it, exactly as it was: same recognised types, same error, same fatal outcome. -/
theorem C13_unrelated_class (env : Env) (d : ClassDef) (hu : Unrelated env d) (fuel : Nat) (n : Node) (T : Ty)
    (hn : TagFree ("!" ++ d.name) n) (hT : NoU d.name T) :
    recognize (env.plus d) fuel n T = recognize env fuel n T :=
  recognizeReq_plus env d hu fuel n (.ty T) hn hT

/-- **List / Sequence / MutableSequence and Dict / Mapping / MutableMapping are interchangeable as far as
the documented language goes.**  Two class models and types that differ only in which of the three
spellings their annotations use (they have the same erasure) admit exactly the same nodes. -/
theorem C13_kind_interchange_language (env env2 : Env) (T T2 : Ty)
    (he : eraseEnv env = eraseEnv env2) (ht : eraseKinds T = eraseKinds T2) (fuel : Nat) (n : Node) :
    Spec.matchesTy env fuel n T = Spec.matchesTy env2 fuel n T2 := by
  unfold Spec.matchesTy
  rw [← matches_erase env fuel n (.ty T), ← matches_erase env2 fuel n (.ty T2)]
  simp only [eraseReq, he, ht]

/-- Lifted to the recogniser (class models without custom recognisers, nodes without user tags): under
either spelling, whenever both recognitions return, the node is recognised as *some* type under the one
iff it is under the other — a document is never rejected for lack of a matching type under one spelling
and accepted under the other.  (What can differ is *ambiguity*: `Union[List[int], Sequence[int]]` names one
kind of list twice; DESIGN.md 7a.) -/
theorem C13_kind_interchange_recognised (env env2 : Env) (T T2 : Ty)
    (hauto : AutoRecognised env) (hauto2 : AutoRecognised env2)
    (he : eraseEnv env = eraseEnv env2) (ht : eraseKinds T = eraseKinds T2) (fuel : Nat) (n : Node)
    (hcore : AllCore n) (ts ts2 : List Ty) (ls ls2 : List Leaf)
    (h1 : recognize env fuel n T = .ok (ts, ls)) (h2 : recognize env2 fuel n T2 = .ok (ts2, ls2)) :
    ts ≠ [] ↔ ts2 ≠ [] := by
  have a := recognizeReq_iff_matches env hauto fuel n (.ty T) ts ls hcore h1
  have b := recognizeReq_iff_matches env2 hauto2 fuel n (.ty T2) ts2 ls2 hcore h2
  have c := C13_kind_interchange_language env env2 T T2 he ht fuel n
  unfold Spec.matchesTy at c
  rw [a, b, c]

-- non-vacuity: two spellings of the same model
example : eraseKinds (.seq .sequence (.map .mutableMapping .str .int))
    = eraseKinds (.seq .mutableSequence (.map .mapping .str .int)) := rfl

end YatimlModel.C13
