import YatimlModel.Gen.Registry
import YatimlModel.Lemmas.RegistryHistory
/-!
# C11 — load and dump functions are stateless, isolated, and leave PyYAML untouched

The programs (`Gen.Registry.progs`) are regenerated on every run from yatiml's factories, `Loader.__init__`
/ `Dumper.__init__` with the methods they call, PyYAML's `add_*` class methods, and the live class
hierarchy with its class-level registries.  The history theorems are proved for *every* set of programs the
checker accepts (`Lemmas/RegistryHistory`), so they re-apply to whatever the translator produces next time.

For every history of creating functions (of any kind, over any number of classes) and calling them (any
number of loop iterations inside), in any order:
* the base heap — PyYAML's and yatiml's own classes and their registries, which is what
  `yaml.safe_load` / `yaml.safe_dump` and every later function start from — is never written;
* the heap region of every function is exactly what its factory builds in a history of its own, and no
  call changes it: a call therefore runs in the same state whatever happened before;
* no program leaves the modelled fragment or writes to a user class (`err`).
Threads: each call works on its own level-2 objects and reads levels 0 and 1, which nothing writes
after creation; the interleaving of calls is a history in this model, the GIL-level atomicity of the
individual reads is CPython's.
-/
namespace YatimlModel.C11
open YatimlModel.Reg YatimlModel.Gen.Registry

/-- the translator expressed every statement, and nothing else in the package writes shared state -/
theorem translation_complete : untranslated = [] ∧ censusOutside = [] := by decide

theorem progs_checked : progs.check = true := by decide +kernel

/-- **No history changes the base.** -/
theorem C11_base_untouched (ops : List Op) (hv : ∀ op ∈ ops, opValid progs op) :
    (progs.run progs.world0 ops).base = progs.base ∧ (progs.run progs.world0 ops).bad = false := by
  have h := run_inv0 progs progs_checked ops hv
  exact ⟨h.base, h.bad⟩

/-- **Isolation and statelessness.**  After any history the functions that exist are exactly the
functions their `create` operations give in isolation, in order: nothing another function's creation or
any call (successful or not) did is visible in them. -/
theorem C11_isolated (ops : List Op) (hv : ∀ op ∈ ops, opValid progs op) :
    (progs.run progs.world0 ops).fns = (creates ops).map progs.isolated :=
  (run_inv0 progs progs_checked ops hv).fns

/-- **A call runs in the same state whatever came before**: the state a call of function `k` starts
from after history `ops` is the state it starts from right after an isolated creation. -/
theorem C11_call_state (ops : List Op) (hv : ∀ op ∈ ops, opValid progs op) (k : Nat) (c : Name × List Nat)
    (hk : (creates ops)[k]? = some c) :
    ∃ f, (progs.run progs.world0 ops).fns[k]? = some f ∧
      progs.callSt (progs.run progs.world0 ops).base f = progs.callSt progs.base (progs.isolated c) := by
  refine ⟨progs.isolated c, ?_, ?_⟩
  · rw [C11_isolated ops hv, List.getElem?_map, hk]; rfl
  · rw [(C11_base_untouched ops hv).1]

theorem C11_call_is_noop_on_world (ops : List Op) (hv : ∀ op ∈ ops, opValid progs op) (k : Nat) (ds : List Nat) :
    progs.run progs.world0 (ops ++ [Op.call k ds]) = progs.run progs.world0 ops := by
  rw [Progs.run, List.foldl_append]
  exact step_call progs progs_checked (run_inv0 progs progs_checked ops hv) k ds

/-- non-vacuity: a history with two load functions over different numbers of classes, a dumps function
and calls in between is valid -/
example : ∀ op ∈ [Op.create (kinds.headD 0) [2], Op.call 0 [3, 3], Op.create (kinds.headD 0) [0],
      Op.create (kinds.getLastD 0) [1], Op.call 2 [13], Op.call 0 [3, 3]],
    opValid progs op := by
  simp only [List.forall_mem_cons, List.not_mem_nil, false_imp_iff, implies_true, opValid]
  decide

end YatimlModel.C11
