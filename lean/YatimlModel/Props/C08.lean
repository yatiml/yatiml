import YatimlModel.Lemmas.RecSound
import YatimlModel.Lemmas.RecNoHook
import YatimlModel.Model.Load
import YatimlModel.Lemmas.ProcAll
/-!
# C08 — bad input is reported only as RecognitionError or a YAML error

In the model every Python operation that can raise is an explicit failure site.
`LoadErr.other` is what an escaping exception of any other type becomes; the
theorems show it is unreachable from the construction phase altogether, and from
`__process_node` unless a custom *recogniser* raises something else than
RecognitionError or the type model contains a dict with non-string keys (both
outside the property: it speaks of constructors, string-likes and savorizers).
-/
namespace YatimlModel.C08

def NotOther (e : LoadErr) : Prop := ∀ s, e ≠ .other s

theorem consErr_notOther {e : LoadErr} (h : ConsErr e) : NotOther e := by
  rcases h with ⟨m, ks, rfl⟩ | rfl <;> intro s <;> simp [errAt]

theorem consItems_notOther (cons : Node → ConsRes)
    (hc : ∀ x e cs, cons x = .error (e, cs) → NotOther e) :
    ∀ (xs : List Node) (calls : List Call) e cs, consItems cons xs calls = .error (e, cs) → NotOther e := by
  intro xs calls e cs h
  exact (consItems_all (C := fun _ => True) (V := fun _ => True) cons xs calls
    (fun x _ => .intro (fun _ _ => trivial) (fun _ _ => trivial) (hc x)) (fun _ _ => trivial)).error h

theorem consPairs_notOther (cons : Node → ConsRes)
    (hc : ∀ x e cs, cons x = .error (e, cs) → NotOther e) :
    ∀ (ps : List (Node × Node)) (acc : List (PyVal × PyVal)) (calls : List Call) e cs,
      consPairs cons ps acc calls = .error (e, cs) → NotOther e := by
  intro ps acc calls e cs h
  exact (consPairs_all (C := fun _ => True) (K := fun _ => True) (V := fun _ => True) cons (consErr_notOther .yaml) ps acc calls
    (fun p _ => ⟨.intro (fun _ _ => trivial) (fun _ _ => trivial) (hc p.1),
      .intro (fun _ _ => trivial) (fun _ _ => trivial) (hc p.2)⟩) (fun _ _ => ⟨trivial, trivial⟩)
    (fun _ _ => trivial)).error h

/-- **Construction never lets another exception type escape**: whatever the processed tree looks like
(any tags, any shapes), whatever `__init__` and string-like constructors do. -/
theorem C08_construct_no_other (env : Env) (tbl : List Entry) (fuel : Nat) (n : Node) (e : LoadErr)
    (cs : List Call) (h : construct env tbl fuel n = .error (e, cs)) : ∀ s, e ≠ .other s := by
  rcases (construct_sound env tbl fuel n).error h with rfl | he
  · simp
  · exact consErr_notOther he

/-- how `__process_node` fails: out of fuel (in the model only), with a RecognitionError, or with the
RuntimeError yatiml raises for a dict type with non-string keys (an unsupported class model, not a
property of the input) -/
def ProcErr (e : LoadErr) : Prop := e = .fuel ∨ (∃ ls, e = .recognition ls) ∨ e = .other "RuntimeError"

theorem tagStep_admitted (env : Env) (tbl : List Entry) {T R : Ty} (hadm : Admits env T R) (n3 : Node)
    (tr : List String) (e : LoadErr) : tagStep env tbl R n3 tr ≠ .error e := by
  induction hadm with
  | self T h1 h2 =>
    cases T with
    | cls c => exact absurd rfl (h1 c)
    | union ms => exact absurd rfl (h2 ms)
    | _ => rintro ⟨⟩
  | unionMem _ _ ih => exact ih
  | cls _ hc =>
    obtain ⟨dd, hf, _⟩ := hc
    dsimp only [tagStep, typeToTag]
    rw [find_isRegistered env _ dd hf]
    rintro ⟨⟩
  | seqItem _ _ | mapKey _ _ | mapVal _ _ => rintro ⟨⟩

/-- **Processing never lets another exception type escape** (apart from the RuntimeError of `ProcErr`) —
whatever the savorize functions do (including raising arbitrary exceptions and replacing the node),
whatever tags, duplicate or non-scalar keys the document has — unless a custom recogniser itself raises
something else than RecognitionError. -/
theorem processNode_err (env : Env) (tbl : List Entry) (ht : HooksTame env) (fuel : Nat) (n : Node) (T : Ty) :
    ProcAll (fun _ => True) ProcErr (processNode env tbl fuel n T) := by
  induction fuel generalizing n T with
  | zero => exact Or.inl rfl
  | succ fuel ih =>
    have hE : ∀ m, ProcErr (errAt m) := fun m => .inr (.inl ⟨_, rfl⟩)
    -- `fun_cases` wants the fuel as a variable
    generalize hf : fuel + 1 = f
    -- the goals, in the order of `processNode`: no fuel; recognition fails; savorize fails; the children fail; the
    -- retagging answers; recognition does not single out one type
    fun_cases processNode env tbl f n T
    · exact .inl rfl
    · rename_i g hr
      cases hf
      cases g with
      | hook => exact absurd hr (recognize_noHook env ht (fuel + 1) n T)
      | dictKey => exact .inr (.inr rfl)
      | fuel => exact .inl rfl
      | _ => exact .inr (.inl ⟨_, rfl⟩)
    · rename_i hs _
      obtain ⟨m, rfl⟩ := savStep_err hs
      exact hE m
    · rename_i hsub _ _
      cases hf
      exact subStep_err ih hE hsub
    · rename_i leaves R _ _ _ _ _ _ hr
      cases hf
      exact .intro (fun _ _ => trivial) fun e he => absurd he (tagStep_admitted env tbl
        (recognize_admits env (fuel + 1) n T [R] leaves hr R List.mem_cons_self) _ _ e)
    · exact .inr (.inl ⟨_, rfl⟩)

/-- **Processing.**  With custom recognisers that raise nothing but RecognitionError, the only "other"
exception `__process_node` can raise is the RuntimeError for a dict type with non-string keys. -/
theorem C08_process_no_other (env : Env) (tbl : List Entry) (ht : HooksTame env) (fuel : Nat)
    (n : Node) (T : Ty) (e : LoadErr) (h : processNode env tbl fuel n T = .error e) :
    ∀ s, e = .other s → s = "RuntimeError" := by
  intro s hs
  rcases (processNode_err env tbl ht fuel n T).error h with rfl | ⟨ls, rfl⟩ | rfl <;> cases hs
  rfl

/-- **C08.**  A load either returns or fails with a RecognitionError or a YAML error (or, in the model
only, by running out of fuel): no other exception type escapes — for every class model whose custom
recognisers raise nothing but RecognitionError and whose dict types have string keys, every document
tree, and every savorize / `__init__` / string-like behaviour. -/
theorem C08_load_no_other (env : Env) (tbl : List Entry) (ht : HooksTame env) (fuel : Nat)
    (n : Node) (T : Ty) (f : LoadFail) (h : loadNode env tbl fuel n T = .error f) :
    ∀ s, f.err = .other s → s = "RuntimeError" := by
  have := (loadNode_all (N := fun _ => True) (C := fun _ => True) (V := fun _ => True) (.intro (fun _ _ => trivial) (C08_process_no_other env tbl ht fuel n T))
    fun p _ => .intro (fun _ _ => trivial) (fun _ _ => trivial) fun e cs he s hs => absurd hs (C08_construct_no_other env tbl fuel p e cs he s)).2
  rwa [h] at this

/-! ### non-vacuity: a model with a raising savorizer and a raising `__init__` is tame -/

def demoEnv : Env :=
  { registered := [{ name := "A", bases := [], ancestors := ["object"], kind := .plain, abstract := false,
                     params := [⟨"x", .int, true, true⟩], argNames := ["x"], extraTy := none,
                     recognize := some [.requireMapping, .requireAttribute "x" (some .int)],
                     savorize := some [.raiseOther], initRaises := fun _ => true }],
    ext := ⟨fun _ => none, fun _ => none, fun _ => none⟩ }

example : HooksTame demoEnv := by
  intro d hd prog hp op hop
  simp only [demoEnv, List.mem_cons, List.not_mem_nil, or_false] at hd
  subst hd
  simp only [Option.some.injEq] at hp
  subst hp
  simp only [List.mem_cons, List.not_mem_nil, or_false] at hop
  rcases hop with rfl | rfl <;> exact trivial

end YatimlModel.C08
