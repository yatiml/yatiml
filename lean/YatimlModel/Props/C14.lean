import YatimlModel.Model.NodeOps
import YatimlModel.Lemmas.CoreTags
/-!
# C14 — `yatiml.Node` accessors behave like an ordered map and a typed scalar

Refinement of the mapping accessors to operations on an association list
(`List (String × Node)`, the simplest possible ordered dictionary), for mappings
whose keys are string scalars; the laws that need distinct keys say so.
-/
namespace YatimlModel.C14
open YatimlModel.NodeOps

abbrev OD := List (String × Node)

def OD.has (d : OD) (a : String) : Bool := d.any (fun e => e.1 == a)
def OD.get (d : OD) (a : String) : Option Node := d.lookup a
def OD.set : OD → String → Node → OD
  | [], a, v => [(a, v)]
  | (k, x) :: r, a, v => if k == a then (k, v) :: r else (k, x) :: OD.set r a v
def OD.remove : OD → String → OD
  | [], _ => []
  | (k, x) :: r, a => if k == a then r else (k, x) :: OD.remove r a
def OD.rename : OD → String → String → OD
  | [], _, _ => []
  | (k, x) :: r, a, b => if k == a then (b, x) :: r else (k, x) :: OD.rename r a b
def OD.keys (d : OD) : List String := d.map (·.1)

def keyOf : Node → String
  | .scalar _ v _ => v
  | _ => ""

/-- all keys are scalar nodes (what "string keys" means at node level) -/
def StrKeys (ps : List (Node × Node)) : Prop := ∀ p ∈ ps, p.1.isScalarNode = true

def absP (ps : List (Node × Node)) : OD := ps.map (fun p => (keyOf p.1, p.2))

theorem keyIs_eq {k : Node} (a : String) (h : k.isScalarNode = true) : k.keyIs a = (keyOf k == a) := by
  cases k with
  | scalar => rfl
  | _ => cases h

/-- **has_attribute** is ordered-dict membership -/
theorem C14_has_attribute (ps : List (Node × Node)) (a : String) (h : StrKeys ps) :
    hasKey ps a = (absP ps).has a := by
  rw [hasKey, OD.has, absP, List.any_map, Bool.eq_iff_iff, List.any_eq_true, List.any_eq_true]
  refine exists_congr fun p => and_congr_right fun hp => ?_
  rw [keyIs_eq a (h p hp)]
  rfl

theorem valuesOf_abs (ps : List (Node × Node)) (a : String) (h : StrKeys ps) :
    valuesOf ps a = ((absP ps).filter (·.1 == a)).map (·.2) := by
  rw [valuesOf, absP, List.filter_map, List.map_map, List.filter_congr fun p hp => keyIs_eq a (h p hp)]
  rfl

theorem OD.filter_key (d : OD) (a : String) (hd : d.keys.Nodup) :
    (d.filter (·.1 == a)).map (·.2) = (d.get a).toList := by
  induction d with
  | nil => rfl
  | cons e r ih =>
    rw [OD.keys, List.map_cons, List.nodup_cons] at hd
    rw [List.filter_cons, OD.get, List.lookup_cons, Bool.beq_comm (a := a)]
    cases he : e.1 == a with
    | false => exact ih hd.2
    | true =>
      have : r.filter (·.1 == a) = [] :=
        List.filter_eq_nil_iff.mpr fun x hx hxa =>
          hd.1 ((eq_of_beq he).trans (eq_of_beq hxa).symm ▸ List.mem_map_of_mem hx)
      simp [this]

/-- **get_attribute** returns the dictionary's value, or raises SeasoningError when the key is
absent (distinct keys: never "found multiple times") -/
theorem C14_get_attribute (t : String) (ps : List (Node × Node)) (m : Mark) (a : String)
    (h : StrKeys ps) (hd : (absP ps).keys.Nodup) :
    getAttribute (.map t (Pairs.ofList ps) m) a =
      match (absP ps).get a with
      | some v => .ok v
      | none => .error .seasoning := by
  rw [getAttribute, Pairs.toList_ofList, valuesOf_abs ps a h, OD.filter_key _ a hd]
  cases (absP ps).get a <;> rfl

/-! The mutating accessors walk the pairs as the dictionary operations walk the entries; one induction
per operation gives both that string keys stay string keys and that the abstraction commutes. -/

theorem setFirst_abs (ps : List (Node × Node)) (a : String) (v : Node) (h : StrKeys ps) :
    StrKeys (setFirst ps a v) ∧ absP (setFirst ps a v) = (absP ps).set a v := by
  induction ps with
  | nil => exact ⟨List.forall_mem_singleton.mpr rfl, rfl⟩
  | cons p ps ih =>
    obtain ⟨h1, h2⟩ := List.forall_mem_cons.mp h
    simp only [setFirst, absP, List.map_cons, OD.set, keyIs_eq _ h1]
    cases keyOf p.1 == a
    · exact ⟨List.forall_mem_cons.mpr ⟨h1, (ih h2).1⟩, congrArg _ (ih h2).2⟩
    · exact ⟨List.forall_mem_cons.mpr ⟨h1, h2⟩, rfl⟩

theorem removeFirst_abs (ps : List (Node × Node)) (a : String) (h : StrKeys ps) :
    StrKeys (removeFirst ps a) ∧ absP (removeFirst ps a) = (absP ps).remove a := by
  induction ps with
  | nil => exact ⟨h, rfl⟩
  | cons p ps ih =>
    obtain ⟨h1, h2⟩ := List.forall_mem_cons.mp h
    simp only [removeFirst, absP, List.map_cons, OD.remove, keyIs_eq _ h1]
    cases keyOf p.1 == a
    · exact ⟨List.forall_mem_cons.mpr ⟨h1, (ih h2).1⟩, congrArg _ (ih h2).2⟩
    · exact ⟨h2, rfl⟩

theorem renameFirst_abs (ps : List (Node × Node)) (a b : String) (h : StrKeys ps) :
    StrKeys (renameFirst ps a b) ∧ absP (renameFirst ps a b) = (absP ps).rename a b := by
  induction ps with
  | nil => exact ⟨h, rfl⟩
  | cons p ps ih =>
    obtain ⟨h1, h2⟩ := List.forall_mem_cons.mp h
    simp only [renameFirst, absP, List.map_cons, OD.rename, keyIs_eq _ h1]
    cases keyOf p.1 == a
    · exact ⟨List.forall_mem_cons.mpr ⟨h1, (ih h2).1⟩, congrArg _ (ih h2).2⟩
    · obtain ⟨_ | _ | _, x⟩ := p
      · exact ⟨List.forall_mem_cons.mpr ⟨rfl, h2⟩, rfl⟩
      · cases h1
      · cases h1

/-- **set_attribute**: an existing key keeps its position, a new key is appended -/
theorem C14_set_attribute (ps : List (Node × Node)) (a : String) (v : Node) (h : StrKeys ps) :
    absP (setFirst ps a v) = (absP ps).set a v := (setFirst_abs ps a v h).2

theorem C14_remove_attribute (ps : List (Node × Node)) (a : String) (h : StrKeys ps) :
    absP (removeFirst ps a) = (absP ps).remove a := (removeFirst_abs ps a h).2

theorem C14_rename_attribute (ps : List (Node × Node)) (a b : String) (h : StrKeys ps) :
    absP (renameFirst ps a b) = (absP ps).rename a b := (renameFirst_abs ps a b h).2

theorem OD.keys_set (d : OD) (a : String) (v : Node) :
    (d.set a v).keys = if a ∈ d.keys then d.keys else d.keys ++ [a] := by
  induction d with
  | nil => rfl
  | cons e r ih =>
    obtain ⟨k, x⟩ := e
    dsimp only [OD.set, OD.keys, List.map_cons] at ih ⊢
    grind

theorem OD.keys_remove_sublist (d : OD) (a : String) : List.Sublist (d.remove a).keys d.keys := by
  fun_induction OD.remove d a with
  | case1 => exact List.Sublist.slnil
  | case2 => exact List.sublist_cons_self _ _
  | case3 _ _ _ _ _ ih => exact ih.cons_cons _

theorem OD.keys_rename (d : OD) (a b : String) :
    (d.rename a b).keys.Perm (if a ∈ d.keys then b :: (d.keys.erase a) else d.keys) := by
  -- one goal per equation of `OD.rename`: no entry, first key is `a` (`hk`), first key differs (`hk`, `ih`)
  fun_induction OD.rename d a b with
  | case1 => exact .refl _
  | case2 k x r a b hk =>
    cases eq_of_beq hk
    simp only [OD.keys, List.map_cons, List.mem_cons_self, ↓reduceIte, List.erase_cons_head, List.Perm.refl]
  | case3 k x r a b hk ih =>
    simp only [OD.keys, List.map_cons, List.mem_cons, List.erase_cons_tail hk,
      show ¬ a = k from fun e => hk (beq_iff_eq.mpr e.symm), false_or] at ih ⊢
    by_cases hm : a ∈ List.map (fun x => x.fst) r
    · simp only [hm, ↓reduceIte] at ih ⊢
      exact (ih.cons k).trans (List.Perm.swap b k _)
    · simp only [hm, ↓reduceIte] at ih ⊢
      exact ih.cons k

/-- set/remove keep the keys distinct; rename does when the new name is not already another key
(the one documented way to leave the ordered-map regime) -/
theorem C14_distinct_preserved (d : OD) (hd : d.keys.Nodup) (a b : String) (v : Node) :
    (d.set a v).keys.Nodup ∧ (d.remove a).keys.Nodup ∧
    ((b ∉ d.keys ∨ b = a) → (d.rename a b).keys.Nodup) := by
  refine ⟨?_, hd.sublist (OD.keys_remove_sublist d a), fun hb => ?_⟩
  · rw [OD.keys_set]
    split
    · exact hd
    · next hn =>
      exact (List.perm_append_singleton a _).nodup_iff.mpr (List.nodup_cons.mpr ⟨hn, hd⟩)
  · rw [(OD.keys_rename d a b).nodup_iff]
    split
    · refine List.nodup_cons.mpr ⟨fun h => ?_, hd.erase a⟩
      rcases hb with hb | hb
      · exact hb (List.mem_of_mem_erase h)
      · exact ((List.Nodup.mem_erase_iff hd).mp h).1 hb
    · exact hd

inductive Op
  | has (a : String) | get (a : String) | set (a : String) (v : Node)
  | remove (a : String) | rename (a b : String)

inductive Res | bool (b : Bool) | node (n : Node) | missing | unit
  deriving DecidableEq

/-- one accessor call on the real representation (pair list of a mapping node) -/
def stepImpl (t : String) (m : Mark) (ps : List (Node × Node)) : Op → List (Node × Node) × Res
  | .has a => (ps, .bool (hasKey ps a))
  | .get a => (ps, match getAttribute (.map t (Pairs.ofList ps) m) a with
                   | .ok v => .node v | .error _ => .missing)
  | .set a v => (setFirst ps a v, .unit)
  | .remove a => (removeFirst ps a, .unit)
  | .rename a b => (renameFirst ps a b, .unit)

def stepSpec (d : OD) : Op → OD × Res
  | .has a => (d, .bool (d.has a))
  | .get a => (d, match d.get a with | some v => .node v | none => .missing)
  | .set a v => (d.set a v, .unit)
  | .remove a => (d.remove a, .unit)
  | .rename a b => (d.rename a b, .unit)

def runImpl (t : String) (m : Mark) : List (Node × Node) → List Op → List (Node × Node) × List Res
  | ps, [] => (ps, [])
  | ps, o :: os =>
    let r := stepImpl t m ps o
    let rr := runImpl t m r.1 os
    (rr.1, r.2 :: rr.2)
def runSpec : OD → List Op → OD × List Res
  | d, [] => (d, [])
  | d, o :: os =>
    let r := stepSpec d o
    let rr := runSpec r.1 os
    (rr.1, r.2 :: rr.2)

/-- a sequence stays inside the ordered-map regime if no rename targets another existing key -/
def OkSeq : OD → List Op → Prop
  | _, [] => True
  | d, o :: os =>
    (match o with | .rename a b => b ∉ d.keys ∨ b = a | _ => True) ∧ OkSeq (stepSpec d o).1 os

theorem step_refines (t : String) (m : Mark) (ps : List (Node × Node)) (o : Op) (hs : StrKeys ps)
    (hd : (absP ps).keys.Nodup) :
    (StrKeys (stepImpl t m ps o).1 ∧ absP (stepImpl t m ps o).1 = (stepSpec (absP ps) o).1) ∧
      (stepImpl t m ps o).2 = (stepSpec (absP ps) o).2 := by
  cases o with
  | has a => exact ⟨⟨hs, rfl⟩, congrArg Res.bool (C14_has_attribute ps a hs)⟩
  | get a =>
    refine ⟨⟨hs, rfl⟩, ?_⟩
    dsimp only [stepImpl, stepSpec]
    rw [C14_get_attribute t ps m a hs hd]
    cases (absP ps).get a <;> rfl
  | set a v => exact ⟨setFirst_abs ps a v hs, rfl⟩
  | remove a => exact ⟨removeFirst_abs ps a hs, rfl⟩
  | rename a b => exact ⟨renameFirst_abs ps a b hs, rfl⟩

/-- **Refinement.**  Any sequence of has/get/set/remove/rename calls on a mapping with distinct string
keys returns what the same calls on an ordered dictionary return and leaves the mapping equal to that
dictionary — for sequences of every length. -/
theorem C14_ops_refine_odict (t : String) (m : Mark) (ops : List Op) :
    ∀ (ps : List (Node × Node)), StrKeys ps → (absP ps).keys.Nodup → OkSeq (absP ps) ops →
      absP (runImpl t m ps ops).1 = (runSpec (absP ps) ops).1 ∧
      (runImpl t m ps ops).2 = (runSpec (absP ps) ops).2 := by
  induction ops with
  | nil => intro ps _ _ _; exact ⟨rfl, rfl⟩
  | cons o os ih =>
    intro ps hs hd hok
    obtain ⟨⟨h3, h1⟩, h2⟩ := step_refines t m ps o hs hd
    have hd' : (stepSpec (absP ps) o).1.keys.Nodup := by
      have := C14_distinct_preserved (absP ps) hd
      cases o with
      | has a | get a => exact hd
      | set a v => exact (this a a v).1
      | remove a => exact (this a a default).2.1
      | rename a b => exact (this a b default).2.2 hok.1
    have := ih _ h3 (h1 ▸ hd') (h1 ▸ hok.2)
    rw [h1] at this
    dsimp only [runImpl, runSpec]
    exact ⟨this.1, by rw [h2, this.2]⟩

/-- **Classification.**  Exactly one of is_scalar / is_mapping / is_sequence holds of every node. -/
theorem C14_classify (n : Node) :
    (isScalar n .anyScalar = .ok true ∧ isMapping n = false ∧ isSequence n = false) ∨
    (isScalar n .anyScalar = .ok false ∧ isMapping n = true ∧ isSequence n = false) ∨
    (isScalar n .anyScalar = .ok false ∧ isMapping n = false ∧ isSequence n = true) := by
  cases n <;> simp [isScalar.eq_def, isMapping, isSequence, Node.isMapNode.eq_def, Node.isSeqNode.eq_def]

def typOf : PyScalar → TypArg
  | .str _ => .str | .int _ => .int | .float _ _ => .float | .bool _ => .bool | .none => .none_

/-- what the external float constructor and the integer parser must satisfy on the texts
`set_value` writes (`repr(x)`, `str(i)`); checked on every run by the correspondence harness -/
def ReadsBack (ext : Ext) : PyScalar → Prop
  | .int i => constructInt (textOfScalar (.int i)) = some i
  | .float r a => ext.yamlFloat r = some (r, a)
  | _ => True

/-- **set_value then get_value.**  On a node with a core tag, `set_value(v)` followed by
`get_value()` returns `v`, and `is_scalar(type(v))` holds. -/
theorem C14_set_get (ext : Ext) (n : Node) (v : PyScalar) (hcore : hasPrefix corePrefix n.tag = true)
    (hrb : ReadsBack ext v) :
    getValue ext (setValue n v) = .ok v ∧ isScalar (setValue n v) (typOf v) = .ok true := by
  simp only [setValue, hcore, if_true]
  -- `core_tags` compares a tag with itself by its short name; `BEq.rfl` would do it too, but finding
  -- `ReflBEq String` is slow in every call
  cases v with
  | bool b =>
    have hb : constructBool (textOfScalar (.bool b)) = some b := by
      cases b <;> decide +kernel
    simp [getValue, tagOfScalar, isScalar, typOf, scalarTagOf, core_tags, hb, -BEq.rfl]
  | _ =>
    simp_all [ReadsBack, getValue, tagOfScalar, textOfScalar, isScalar, typOf, scalarTagOf, core_tags,
      -BEq.rfl]

/-- what PyYAML's safe constructor builds for a scalar node with one of the five core tags
(shared with the loader model: this *is* the function the loader's construction uses) -/
def constructCore (ext : Ext) (tag value : String) : Option PyScalar :=
  if tag == tStr then some (.str value)
  else if tag == tInt then (constructInt value).map PyScalar.int
  else if tag == tFloat then (ext.yamlFloat value).map (fun r => PyScalar.float r.1 r.2)
  else if tag == tBool then (constructBool value).map PyScalar.bool
  else if tag == tNull then some .none
  else none

/-- **get_value is what a load would construct** -/
theorem C14_get_value_is_load (ext : Ext) (tag value : String) (m : Mark) (v : PyScalar)
    (h : constructCore ext tag value = some v) :
    getValue ext (.scalar tag value m) = .ok v := by
  -- both functions test the tag against the same five tags in the same order
  unfold constructCore at h
  unfold getValue
  -- as variables: with the literal tags the proof term makes the kernel compare the long strings
  generalize tStr = a, tInt = b, tFloat = c, tBool = d, tNull = e at h ⊢
  grind

/-! ## remove_attributes_with_default_values -/

def removable (ext : Ext) (defaults : List (String × PyDefault)) (p : Node × Node) : Bool :=
  match p.1 with
  | .scalar _ k _ =>
    (match defaults.lookup k with
     | some d => matchesDefault ext p.2 d
     | none => false)
  | _ => false

/-- **Exactness.**  The attributes that remain are, in their original order, exactly those that are not
(defaulted and equal to their default). -/
theorem C14_remove_defaults_exact (ext : Ext) (t : String) (ps : List (Node × Node)) (m : Mark)
    (defaults : List (String × PyDefault)) :
    removeDefaults ext (.map t (Pairs.ofList ps) m) defaults =
      .ok (.map t (Pairs.ofList (ps.filter (fun p => !removable ext defaults p))) m) := by
  dsimp only [removeDefaults]
  rw [Pairs.toList_ofList]
  congr 3
  apply List.filter_congr
  rintro ⟨k, v⟩ _
  cases k <;> simp only [removable, Bool.not_false]
  cases List.lookup _ defaults <;> rfl

/-- **Totality.**  On a mapping it never fails, whatever the values and defaults are. -/
theorem C14_remove_defaults_total (ext : Ext) (t : String) (ps : Pairs) (m : Mark)
    (defaults : List (String × PyDefault)) :
    ∃ n', removeDefaults ext (.map t ps m) defaults = .ok n' :=
  ⟨_, rfl⟩

def k (s : String) : Node := .scalar tStr s ⟨1, 0⟩
def iv (s : String) : Node := .scalar tInt s ⟨1, 3⟩
def demo : List (Node × Node) := [(k "a", iv "1"), (k "b", iv "0x1F"), (k "c", iv "3")]

example : StrKeys demo := by unfold StrKeys; decide +kernel
example : (absP demo).keys.Nodup := by decide +kernel
example : OkSeq (absP demo) [.rename "a" "z", .set "q" (iv "9"), .remove "b", .get "c"] := by
  simp only [OkSeq]; decide +kernel
example : (runSpec (absP demo) [.rename "a" "z", .set "q" (iv "9"), .remove "b", .has "b"]).1.keys
    = ["z", "c", "q"] := by decide +kernel
example : constructInt "0x1F" = some 31 ∧ constructInt "017" = some 15 ∧ constructInt "1_000" = some 1000
    ∧ constructInt "1:30" = some 90 ∧ constructInt "-0b101" = some (-5) ∧ constructInt "08" = none := by
  decide +kernel
example : ReadsBack ⟨fun _ => none, fun _ => none, fun _ => none⟩ (.int (-1234567890123)) := by
  simp only [ReadsBack, textOfScalar]; decide +kernel

end YatimlModel.C14
