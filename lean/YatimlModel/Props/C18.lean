import YatimlModel.Model.Load
/-!
# C18 — anchors and aliases are transparent
-/
namespace YatimlModel.C18

mutual
theorem expand_ofNode (opened : List (String × Mark)) (env : Anchors) :
    ∀ n : Node, expandDoc opened env (Doc.ofNode n) = .ok (n, env) := by
  intro n
  cases n with
  | scalar t v m => rfl
  | seq t xs m =>
    simp only [Doc.ofNode, expandDoc, openAnchor.eq_def, noteAnchor.eq_def, expand_ofNodes opened env xs]
  | map t ps m =>
    simp only [Doc.ofNode, expandDoc, openAnchor.eq_def, noteAnchor.eq_def, expand_ofPairs opened env ps]
theorem expand_ofNodes (opened : List (String × Mark)) (env : Anchors) :
    ∀ xs : Nodes, expandDocs opened env (Docs.ofNodes xs) = .ok (xs, env) := by
  intro xs
  cases xs with
  | nil => rfl
  | cons x xs =>
    simp only [Docs.ofNodes, expandDocs, expand_ofNode opened env x, expand_ofNodes opened env xs]
theorem expand_ofPairs (opened : List (String × Mark)) (env : Anchors) :
    ∀ ps : Pairs, expandPairs opened env (DocPairs.ofPairs ps) = .ok (ps, env) := by
  intro ps
  cases ps with
  | nil => rfl
  | cons k v r =>
    simp only [DocPairs.ofPairs, expandPairs, expand_ofNode opened env k, expand_ofNode opened env v,
      expand_ofPairs opened env r]
end

/-- the document obtained by replacing every alias by a copy of the anchored node (and dropping the
anchors), when there is no cycle -/
def inlined (d : Doc) : Option Doc :=
  match expandDoc [] [] d with
  | .ok (n, _) => some (Doc.ofNode n)
  | .error _ => none

/-- **Transparency.**  A document with anchors and aliases loads exactly as the document in which every
alias is replaced by a copy of the anchored node: same value, same constructor calls, same failure —
for every class model, type and document. -/
theorem C18_transparent (env : Env) (tbl : List Entry) (fuel : Nat) (d d' : Doc) (T : Ty)
    (h : inlined d = some d') : loadDoc env tbl fuel d T = loadDoc env tbl fuel d' T := by
  unfold inlined at h
  split at h
  · next hn =>
    cases h
    simp only [loadDoc, hn, expand_ofNode]
  · cases h

/-- an alias to an anchor whose node is still being composed (i.e. the node contains itself) is
rejected, citing that node -/
theorem alias_to_open_is_cycle (opened : List (String × Mark)) (env : Anchors) (name : String)
    (m am : Mark) (h : opened.lookup name = some am) :
    expandDoc opened env (.alias name m) = .error (.cycle am) := by
  simp [expandDoc, h]

/-- **Self-referential aliases are rejected with an error** (a RecognitionError citing the node), they
do not exhaust the stack: `expandDoc` is a total structural recursion on the document. -/
theorem C18_cycle_rejected (env : Env) (tbl : List Entry) (fuel : Nat) (d : Doc) (T : Ty) (m : Mark)
    (h : expandDoc [] [] d = .error (.cycle m)) :
    loadDoc env tbl fuel d T = .error ⟨.recognition [⟨[m], []⟩], []⟩ := by
  simp [loadDoc, h]

/-- the textbook cycle `&a [*a]` -/
example : expandDoc [] [] (.seq (some "a") tSeq (.cons (.alias "a" ⟨0, 4⟩) .nil) ⟨0, 0⟩)
    = .error (.cycle ⟨0, 0⟩) := rfl

/-- sharing without a cycle: `[&x {k: 1}, *x]` expands to two equal copies -/
example : (expandDoc [] [] (.seq none tSeq
      (.cons (.map (some "x") tMap (.cons (.scalar none tStr "k" ⟨0, 5⟩) (.scalar none tInt "1" ⟨0, 8⟩) .nil) ⟨0, 1⟩)
      (.cons (.alias "x" ⟨0, 12⟩) .nil)) ⟨0, 0⟩)).toOption.map (·.1)
    = some (.seq tSeq
      (.cons (.map tMap (.cons (.scalar tStr "k" ⟨0, 5⟩) (.scalar tInt "1" ⟨0, 8⟩) .nil) ⟨0, 1⟩)
      (.cons (.map tMap (.cons (.scalar tStr "k" ⟨0, 5⟩) (.scalar tInt "1" ⟨0, 8⟩) .nil) ⟨0, 1⟩) .nil)) ⟨0, 0⟩) := rfl

end YatimlModel.C18
