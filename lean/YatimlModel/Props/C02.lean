import YatimlModel.Lemmas.RecComplete
import YatimlModel.Model.Load
import YatimlModel.Props.C01
import YatimlModel.Props.C03
/-!
# C02 — load accepts exactly what the documented pipeline admits and builds that value

`Spec/Pipeline.lean` states the documented recognition rules on their own (`matchesTy`).  For every class
model without custom recognisers, every node without user tags and every type, recognition finds at least
one type exactly for the nodes in that language (`Lemmas/RecComplete`); hence a document outside the language
of the declared type is rejected with a RecognitionError and a document that loads is inside it.  The
per-kind rules of the property text are unfoldings of `matchesTy`.

What C02 says beyond recognition — after savorising only string keys, no missing required and no unknown
attribute without `_yatiml_extra`, the constructor called with the parsed attribute values, defaults left
to Python, extras an ordered mapping of plain data — is carried by the theorems on `checkAttributes` and
`kwargsOf` below and by `C04`.  The end-to-end equality "loads iff the reference pipeline loads, with the
same value" for seasoned models is *not* proved, and no theorem of that shape is stated: it is what the
independent reference pipeline of the harness decides on generated and on all small documents.
-/
namespace YatimlModel.C02
open NodeOps Spec

/-- **Recognised as some type ⇔ in the documented language.** -/
theorem C02_recognised_iff_matches (env : Env) (hauto : AutoRecognised env) (fuel : Nat) (n : Node) (T : Ty)
    (hcore : AllCore n) (ts : List Ty) (ls : List Leaf) (h : recognize env fuel n T = .ok (ts, ls)) :
    (ts ≠ [] ↔ matchesTy env fuel n T = true) :=
  recognizeReq_iff_matches env hauto fuel n (.ty T) ts ls hcore h

/-- **Uniqueness or error**: anything but exactly one recognised type is a RecognitionError. -/
theorem C02_recognition_unique_or_error (env : Env) (tbl : List Entry) (fuel : Nat) (n : Node) (T : Ty)
    (ts : List Ty) (ls : List Leaf) (h : recognize env (fuel + 1) n T = .ok (ts, ls))
    (hne : ts.length ≠ 1) : processNode env tbl (fuel + 1) n T = .error (.recognition ls) :=
  C03.C03_ambiguity_fails env tbl fuel n T ts ls h hne

/-- **Outside the language ⇒ rejected**, with a RecognitionError (never loaded, never another
exception), whenever recognition returns at all. -/
theorem C02_not_matching_rejected (env : Env) (hauto : AutoRecognised env) (tbl : List Entry) (fuel : Nat)
    (n : Node) (T : Ty) (hcore : AllCore n) (ts : List Ty) (ls : List Leaf)
    (h : recognize env (fuel + 1) n T = .ok (ts, ls)) (hno : matchesTy env (fuel + 1) n T = false) :
    loadNode env tbl (fuel + 1) n T = .error ⟨.recognition ls, []⟩ := by
  have hempty : ts = [] := Classical.byContradiction fun hne =>
    nomatch hno.symm.trans ((C02_recognised_iff_matches env hauto (fuel + 1) n T hcore ts ls h).mp hne)
  have := C02_recognition_unique_or_error env tbl fuel n T ts ls h (hempty ▸ Nat.zero_ne_one)
  simp [loadNode, this]

/-- **Loaded ⇒ inside the language.** -/
theorem C02_loaded_matches (env : Env) (hauto : AutoRecognised env) (tbl : List Entry) (fuel : Nat)
    (n : Node) (T : Ty) (hcore : AllCore n) (o : LoadOut) (h : loadNode env tbl (fuel + 1) n T = .ok o) :
    matchesTy env (fuel + 1) n T = true := by
  unfold loadNode at h
  split at h
  · cases h
  · rename_i p hp
    obtain ⟨R, ls, _, _, _, _, hrec, _⟩ := processNode_ok hp
    exact (C02_recognised_iff_matches env hauto (fuel + 1) n T hcore [R] ls hrec).mp (List.cons_ne_nil _ _)

theorem C02_builtin_exact (env : Env) (fuel : Nat) (n : Node) :
    matchesTy env (fuel + 1) n .str = scalarTagged n tStr ∧
    matchesTy env (fuel + 1) n .int = scalarTagged n tInt ∧
    matchesTy env (fuel + 1) n .float = scalarTagged n tFloat ∧
    matchesTy env (fuel + 1) n .bool = scalarTagged n tBool ∧
    matchesTy env (fuel + 1) n .null = scalarTagged n tNull ∧
    matchesTy env (fuel + 1) n .date = scalarTagged n tTimestamp ∧
    matchesTy env (fuel + 1) n .path = scalarTagged n tStr :=
  ⟨rfl, rfl, rfl, rfl, rfl, rfl, rfl⟩

theorem C02_list_elementwise (env : Env) (fuel : Nat) (k : SeqKind) (item : Ty) (t : String) (xs : Nodes) (m : Mark) :
    matchesTy env (fuel + 1) (.seq t xs m) (.seq k item) = xs.toList.all (fun x => matchesTy env fuel x item) ∧
    (∀ t' v m', matchesTy env (fuel + 1) (.scalar t' v m') (.seq k item) = false) ∧
    (∀ t' ps m', matchesTy env (fuel + 1) (.map t' ps m') (.seq k item) = false) :=
  ⟨rfl, fun _ _ _ => rfl, fun _ _ _ => rfl⟩

/-- dicts element-wise, with string (or string-like) keys -/
theorem C02_dict_elementwise (env : Env) (fuel : Nat) (k : MapKind) (K V : Ty) (t : String) (ps : Pairs) (m : Mark) :
    matchesTy env (fuel + 1) (.map t ps m) (.map k K V) =
      (keyTypeOk env K && ps.toList.all (fun p => matchesTy env fuel p.1 K && matchesTy env fuel p.2 V)) :=
  rfl

/-- a class: itself (unless abstract) or a registered class derived from it -/
theorem C02_class_rule (env : Env) (fuel : Nat) (n : Node) (c : String) (d : ClassDef) (top : Bool)
    (hf : env.find c = some d) :
    matchesReq env (fuel + 1) n (.classes c top) =
      ((env.directSubclasses c).any (fun s => matchesReq env fuel n (.classes s.name false)) ||
       (!d.abstract && classMatches (fun x U => matchesTy env fuel x U) d n)) :=
  matchesReq_classes env fuel n top hf

/-- a parameter of an auto-recognised class: the key itself, else the dashed key, else a default -/
theorem C02_attr_dashed_standin (m : Node → Ty → Bool) (ps : List (Node × Node)) (p : Param) :
    (hasKey ps p.name = true → attrMatches m ps p = valueMatches m ps p.ty p.name) ∧
    (hasKey ps p.name = false → hasKey ps (dashed p.name) = true →
      attrMatches m ps p = valueMatches m ps p.ty (dashed p.name)) ∧
    (hasKey ps p.name = false → hasKey ps (dashed p.name) = false → attrMatches m ps p = !p.required) := by
  refine ⟨?_, ?_, ?_⟩ <;> intros <;> simp_all [attrMatches]

/-- enums and string-likes by scalar kind; any other class needs a mapping -/
theorem C02_enum_stringlike_rule (m : Node → Ty → Bool) (d : ClassDef) (n : Node) :
    (d.kind = .stringLike → classMatches m d n = scalarTagged n tStr) ∧
    (∀ ms, d.kind = .enum ms → classMatches m d n = (scalarTagged n tStr || scalarTagged n tBool)) ∧
    (d.kind = .plain → ∀ t v mk, classMatches m d (.scalar t v mk) = false) := by
  refine ⟨fun h => ?_, fun ms h => ?_, fun h t v mk => ?_⟩ <;> simp only [classMatches.eq_def, h]

/-- after savorising: every required parameter is present, every present parameter has a value of its
type, every key is a string and names a parameter unless the class takes `_yatiml_extra` -/
theorem C02_attributes_checked (env : Env) (d : ClassDef) (n : Node) (ps : List (Node × Node))
    (mapping : List (PyVal × PyVal)) (h : checkAttributes env d n ps mapping = none) :
    (∀ p ∈ d.params, (p.required = true → (dictGet mapping p.name).isSome = true) ∧
      (∀ v, dictGet mapping p.name = some v → typeMatches env v p.ty = true)) ∧
    (∀ e ∈ mapping, ∃ k, e.1 = .scalar (.str k) ∧
      (d.argNames.contains k = true ∨ k = "self" ∨ d.takesExtra = true)) :=
  C01.checkAttributes_none env d n ps mapping h

/-- **Defaults are Python's.**  The keyword arguments of the constructor call are entries of the
constructed mapping (plus `_yatiml_extra`): a parameter the document omits is not passed at all. -/
theorem C02_defaults_not_passed (d : ClassDef) (mapping : List (PyVal × PyVal)) :
    ∀ e ∈ kwargsOf d mapping, e ∈ mapping ∨ e.1 = .scalar (.str "_yatiml_extra") := by
  intro e he
  unfold kwargsOf at he
  split at he
  · rcases List.mem_append.mp he with h | h
    · exact Or.inl (List.filter_sublist.subset h)
    · exact Or.inr (congrArg Prod.fst (List.mem_singleton.mp h))
  · exact Or.inl he

/-- **Extras: ordered, complete, disjoint.**  For a class taking `_yatiml_extra`, the call gets the
parameter entries in document order followed by one `_yatiml_extra` dict holding exactly the other
entries, in document order. -/
theorem C02_extras_ordered_plain (d : ClassDef) (mapping : List (PyVal × PyVal)) (hx : d.takesExtra = true) :
    ∃ main extra, kwargsOf d mapping = main ++ [(.scalar (.str "_yatiml_extra"), .dict (PyKVs.ofList extra))] ∧
      main.Sublist mapping ∧ extra.Sublist mapping ∧
      (∀ e ∈ mapping, e ∈ main ∨ e ∈ extra) ∧ (∀ e, e ∈ main → e ∈ extra → False) := by
  unfold kwargsOf
  rw [if_pos hx]
  refine ⟨_, _, rfl, List.filter_sublist, List.filter_sublist, fun e he => ?_, fun e h1 h2 => ?_⟩
  · rw [List.mem_filter, List.mem_filter, and_iff_right he, and_iff_right he, Bool.not_eq_true']
    exact Bool.eq_false_or_eq_true _
  · have h2 := (List.mem_filter.mp h2).2
    dsimp only at h2
    rw [(List.mem_filter.mp h1).2] at h2
    cases h2

end YatimlModel.C02
