import YatimlModel.Props.C06
import YatimlModel.Props.C09
import YatimlModel.Props.C15
import YatimlModel.Gen.LoaderResolvers
import YatimlModel.Lemmas.Env
/-!
# C05 — loading what was dumped gives back an equal object (YAML round trip)

Node/scalar-level part.  The text layer (PyYAML's emitter and scanner) is not modelled; its contract
(assumption A-text of DESIGN.md) is: a scalar the serializer marks *implicit* is written plain and is
re-read with the tag the **loader's** resolver gives its text; a string that would not resolve to `str`
is written quoted and re-read as `str`.  Under that contract the round trip of scalars comes down to the
statements about the two regenerated resolver tables proved here.
-/
namespace YatimlModel.C05
open YatimlModel.Gen NodeOps Re

def occursIn (tbl : List Entry) (e : Entry) : Bool := tbl.any (fun e' => e'.key == e.key && e'.re == e.re)

/-- the entries of the Loader's table that the Dumper's does not have are the YAML 1.2 booleans (PyYAML's own
entries are shared objects, and the Dumper is given the Loader's YAML 1.2 float expression) -/
theorem loaderOnly_bool : (loaderTable.filter fun e => !occursIn dumperTable e).all (·.tag == .bool) = true := by
  decide +kernel

theorem dumper_no_str_entries : dumperTable.all (fun e => !(e.tag == tagStr)) = true := by decide +kernel

/-- **Strings stay strings.**  For every string: if the Dumper's resolver says `str` (so the emitter may
write it plain), the Loader's resolver says `str` too.  In particular every string that looks like a
YAML 1.2 float or boolean, an int, a null, a timestamp, `<<` or `=` is *not* `str` for the Dumper and
gets quoted. -/
theorem C05_quoted_strings_stay_strings (s : List Nat) (h : resolve dumperTable s = .str) :
    resolve loaderTable s = .str := by
  have hnm : ∀ d ∈ dumperTable, d.matches s = false := by
    rcases resolve_cases dumperTable s with ⟨d, hd, _, hr⟩ | ⟨hn, _⟩
    · simpa [← hr, h, tagStr] using List.all_eq_true.mp dumper_no_str_entries d hd
    · exact hn
  rcases resolve_cases loaderTable s with ⟨e, he, hmatch, hres⟩ | ⟨_, hr⟩
  · exfalso
    simp only [Entry.matches, Bool.and_eq_true] at hmatch
    by_cases hocc : occursIn dumperTable e = true
    · simp only [occursIn, List.any_eq_true, Bool.and_eq_true, beq_iff_eq] at hocc
      obtain ⟨e', he', hk, hr⟩ := hocc
      simpa [Entry.matches, hk, hr, hmatch] using hnm e' he'
    · -- an entry the Dumper lacks is a YAML 1.2 boolean: `s` is one of its spellings (C09), and the Dumper's
      -- table, evaluated on each of them, does not say `str`
      have hb := List.all_eq_true.mp loaderOnly_bool e (List.mem_filter.mpr ⟨he, by simpa using hocc⟩)
      rw [← hres, C09.C09_bool_iff] at hb
      have := forall_words (p := fun w => !(resolve dumperTable w == .str)) (by decide +kernel) hb
      simp [h] at this
  · exact hr

/-! ## what the representers write re-reads as the same kind -/

theorem loaderInt_ok : resolvesTo loaderTable .int C06.pyIntStr = true := by decide +kernel
theorem reprFloat_spec : covers C06.reprFloat [cat Spec.specFloat Spec.optNL] = true := by decide +kernel

theorem C05_ints_reread_as_int (s : List Nat) (h : rmatch C06.pyIntStr s = true) :
    resolve loaderTable s = .int := resolvesTo_sound (by decide) loaderInt_ok s h

/-- every float the representer writes (finite ones as `repr` with a fraction point, `.nan`, `.inf`,
`-.inf`) is a YAML 1.2 float for the Loader -/
theorem C05_floats_reread_as_float (s : List Nat) (h : rmatch C06.reprFloat s = true) :
    resolve loaderTable s = .float := by
  have hm : rmatch (cat Spec.specFloat Spec.optNL) s = true := by
    simpa using covers_sound _ _ reprFloat_spec s h
  exact eq_of_beq ((C09.C09_float_iff s).trans hm)

theorem C05_bools_nulls_reread (s : List Nat) :
    (rmatch C06.reprBool s = true → resolve loaderTable s = .bool) ∧
    (rmatch C06.reprNull s = true → resolve loaderTable s = .null) := by
  exact ⟨resolvesTo_sound (by decide) (by decide +kernel) s, resolvesTo_sound (by decide) (by decide +kernel) s⟩

/-- **Enum members round-trip by name**: the member is represented as its name and the node the loader
tags with the enum's class constructs that member again -/
theorem C05_enum_roundtrip (env : Env) (tbl : List Entry) (fuel : Nat) (c name : String) (d : ClassDef)
    (members : List String) (m : Mark) (hd : env.find c = some d) (hk : d.kind = .enum members)
    (hname : d.name = c) (hmem : members.contains name = true) :
    (construct env tbl (fuel + 1) (.scalar ("!" ++ c) name m)).toOption.map (·.value)
      = some (.enumMember c name) := by
  have hm : name ∈ members := by simpa using hmem
  unfold construct
  simp [Node.tag, byTag_bang, hd, hk, hm, hname, Except.toOption]

/-- **String-like objects round-trip through `str()`** (for classes with `str(C(s)) == s`) -/
theorem C05_stringlike_roundtrip (env : Env) (tbl : List Entry) (fuel : Nat) (c s : String) (d : ClassDef)
    (m : Mark) (hd : env.find c = some d) (hk : d.kind = .stringLike) (hname : d.name = c)
    (hok : d.initRaises [("", .str s)] = false) :
    (construct env tbl (fuel + 1) (.scalar ("!" ++ c) s m)).toOption.map (·.value)
      = some (.userStr c s) := by
  unfold construct
  simp [Node.tag, byTag_bang, hd, hk, hok, hname, Except.toOption]

/-- the dash/underscore sweeten–savorize pair is an inverse pair on keys free of the target character -/
theorem C05_dash_under_inverse (s : String) :
    ('-' ∉ s.toList → replaceChar '-' '_' (replaceChar '_' '-' s) = s) ∧
    ('_' ∉ s.toList → replaceChar '_' '-' (replaceChar '-' '_' s) = s) :=
  C15.C15_dash_under_inverse s

end YatimlModel.C05
