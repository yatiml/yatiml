import YatimlModel.Props.C04
import YatimlModel.Props.C03
import YatimlModel.Lemmas.Conforms
import YatimlModel.Lemmas.ProcAll
/-!
# C01 — a loaded value always conforms to the declared type

Proved here: the chain recognition → retagging → construction at the root of every (sub)tree, link by
link, and conformance all the way down: every constructor call a load makes is typed, and the loaded
value is of the declared type.
-/
namespace YatimlModel.C01

/-- the unique recognised type is admitted by the declared type (whatever tags, seasoning functions
and permissive custom recognisers are in play) -/
theorem C01_recognised_type_admitted (env : Env) (fuel : Nat) (n : Node) (T R : Ty) (ls : List Leaf)
    (h : recognize env fuel n T = .ok ([R], ls)) : Admits env T R :=
  recognize_admits env fuel n T [R] ls h R List.mem_cons_self

/-- after processing, the root carries the tag of the recognised type — or, for `Any`, core tags only -/
theorem C01_root_tag (env : Env) (tbl : List Entry) (R : Ty) (n3 : Node) (tr : List String) (o : ProcOut)
    (h : tagStep env tbl R n3 tr = .ok o) :
    (R = .any ∧ o.node = stripTags tbl n3) ∨ (∃ tag, typeToTag env R = some tag ∧ o.node.tag = tag) := by
  obtain ⟨-, h1 | ⟨-, tag, htag, ho⟩⟩ := tagStep_ok h
  · exact .inl h1
  · exact .inr ⟨tag, htag, by rw [ho, tag_setTag]⟩

/-- a node tagged with a built-in scalar type constructs a value of exactly that kind, or fails -/
theorem C01_scalar_exact_kind (env : Env) (tbl : List Entry) (fuel : Nat) (v : String) (m : Mark)
    (o : ConsOut) :
    (construct env tbl (fuel + 1) (.scalar tStr v m) = .ok o → ∃ s, o.value = .scalar (.str s)) ∧
    (construct env tbl (fuel + 1) (.scalar tInt v m) = .ok o → ∃ i, o.value = .scalar (.int i)) ∧
    (construct env tbl (fuel + 1) (.scalar tFloat v m) = .ok o → ∃ r a, o.value = .scalar (.float r a)) ∧
    (construct env tbl (fuel + 1) (.scalar tBool v m) = .ok o → ∃ b, o.value = .scalar (.bool b)) ∧
    (construct env tbl (fuel + 1) (.scalar tNull v m) = .ok o → o.value = .scalar .none) ∧
    (construct env tbl (fuel + 1) (.scalar tTimestamp v m) = .ok o → ∃ r, o.value = .date r) := by
  refine ⟨?_, ?_, ?_, ?_, ?_, ?_⟩ <;> rw [construct_scalar_core env tbl fuel v m (by simp only [core_tags])]
  · rw [constructScalarCore_str]; rintro ⟨⟩; exact ⟨_, rfl⟩
  · rw [constructScalarCore_int]; cases constructInt v <;> rintro ⟨⟩; exact ⟨_, rfl⟩
  · rw [constructScalarCore_float]; cases env.ext.yamlFloat v <;> rintro ⟨⟩; exact ⟨_, _, rfl⟩
  · rw [constructScalarCore_bool]; cases constructBool v <;> rintro ⟨⟩; exact ⟨_, rfl⟩
  · rw [constructScalarCore_null]; rintro ⟨⟩; rfl
  · rw [constructScalarCore_timestamp]; cases env.ext.yamlTimestamp v <;> rintro ⟨⟩; exact ⟨_, rfl⟩

/-- what `__check_no_missing_attributes` and `__type_check_attributes` establish when they pass -/
theorem checkAttributes_none (env : Env) (d : ClassDef) (n : Node) (ps : List (Node × Node))
    (mapping : List (PyVal × PyVal)) (h : checkAttributes env d n ps mapping = none) :
    (∀ p ∈ d.params, (p.required = true → (dictGet mapping p.name).isSome = true) ∧
      (∀ v, dictGet mapping p.name = some v → typeMatches env v p.ty = true)) ∧
    (∀ e ∈ mapping, ∃ k, e.1 = .scalar (.str k) ∧
      (d.argNames.contains k = true ∨ k = "self" ∨ d.takesExtra = true)) := by
  revert h
  -- the two ways `checkAttributes` answers: the sweep over the parameters finds a fault, or the keys are swept
  fun_cases checkAttributes env d n ps mapping <;> intro h
  · cases h
  · rename_i hmiss
    refine ⟨fun p hp => ?_, fun e he => ?_⟩
    · have := List.findSome?_eq_none_iff.mp hmiss p hp
      revert this
      cases dictGet mapping p.name <;> simp
    · have := List.findSome?_eq_none_iff.mp h e he
      split at this
      · rename_i k hk
        refine ⟨k, hk, Decidable.or_iff_not_imp_left.mpr fun hc => Decidable.or_iff_not_imp_left.mpr fun hs => ?_⟩
        cases hx : d.takesExtra
        · simp [show k ∉ d.argNames by simpa using hc, hs, hx] at this
        · rfl
      · cases this

/-- **Any** yields plain data (restated from C04) -/
theorem C01_any_is_plain (env : Env) (tbl : List Entry) (htbl : TableCore tbl) (fuel fuel' : Nat)
    (n : Node) (o : ProcOut) (h : processNode env tbl (fuel + 1) n .any = .ok o) :
    QuietPlain (construct env tbl fuel' o.node) :=
  C04.C04_any_plain env tbl htbl fuel fuel' n o h

/-- **The empty document** is a null: it is refused where a non-null built-in scalar is declared -/
theorem C01_empty_document (env : Env) (tbl : List Entry) (fuel : Nat) (T : Ty)
    (hT : T = .str ∨ T = .int ∨ T = .float ∨ T = .bool ∨ T = .date ∨ T = .path) :
    ∃ ls, processNode env tbl (fuel + 1) emptyDocument T = .error (.recognition ls) := by
  -- a leaf type with another tag than `null`: recognition answers with no type, citing the node
  obtain ⟨tag, htag, hne⟩ : ∃ tag, leafTag T = some tag ∧ (tNull == tag) = false := by
    rcases hT with rfl | rfl | rfl | rfl | rfl | rfl <;> exact ⟨_, rfl, by simp only [core_tags, String.reduceBEq]⟩
  refine ⟨[⟨[emptyDocument.mark], []⟩], C03.C03_ambiguity_fails env tbl fuel _ T [] _ ?_ (by simp)⟩
  unfold recognize
  rw [recognizeReq_leaf env fuel _ htag, recScalar_eq]
  simp [Spec.scalarTagged, emptyDocument, hne, recFail]

def CallTyped (env : Env) (c : Call) : Prop :=
  (∃ (d : ClassDef) (mapping : List (PyVal × PyVal)), c = ⟨d.name, kwargsOf d mapping⟩ ∧
      (∀ p ∈ d.params, (p.required = true → (dictGet mapping p.name).isSome = true) ∧
        (∀ v, dictGet mapping p.name = some v → typeMatches env v p.ty = true)) ∧
      (∀ e ∈ mapping, ∃ k, e.1 = .scalar (.str k) ∧
        (d.argNames.contains k = true ∨ k = "self" ∨ d.takesExtra = true))) ∨
  (∃ (d : ClassDef) (v : String), c = ⟨d.name, [(.scalar (.str ""), .scalar (.str v))]⟩)

def loadCalls (r : LoadRes) : List Call :=
  match r with
  | .ok o => o.calls
  | .error f => f.calls

/-- **All the way down.**  Every call of a user constructor that a load makes — at any depth, whether
the load as a whole succeeds or fails afterwards — receives, for every declared parameter, either
nothing (Python's default applies) or a value of the declared type (`typeMatches`: containers
element-wise, unions member-wise, classes by `isinstance`), every required parameter is present, and
keys that are not parameters only reach a class that takes `_yatiml_extra`.  String-like classes are
called with the scalar's text.  For every node, class model, type and fuel. -/
theorem C01_every_constructor_call_typed (env : Env) (tbl : List Entry) (fuel : Nat) (n : Node) (T : Ty) :
    ∀ c ∈ loadCalls (loadNode env tbl fuel n T), CallTyped env c := by
  have key : ∀ c, CallOk env c → CallTyped env c := by
    rintro c (⟨d, n', ps, mapping, rfl, hchk⟩ | ⟨d, v, rfl, _⟩)
    · exact Or.inl ⟨d, mapping, rfl, checkAttributes_none env d n' ps mapping hchk⟩
    · exact Or.inr ⟨d, v, rfl⟩
  exact (loadNode_all (N := fun _ => True) (E := fun _ => True) (.intro (fun _ _ => trivial) fun _ _ => trivial)
    fun p _ => (construct_sound env tbl fuel p).mono key (fun _ => id) (fun _ _ => trivial)).1

/-- **A loaded value conforms to the declared type.**  For every class table consistent with Python's
MRO (`EnvWF`), every resolver table with core tags only (`TableCore`, proved of the regenerated Loader
table: `C04.loaderTable_core`), every node, every declared type whose dict key types are `str` or a class,
every fuel: if the load succeeds, the value is of the declared type — built-ins of exactly their kind,
lists and dicts element-wise with keys, a Union by one of its members, a class by an instance of it or
of a registered class derived from it.  Together with `C01_every_constructor_call_typed` (the
attributes of every constructed object, at any depth) this is conformance all the way down. -/
theorem C01_loaded_value_conforms (env : Env) (tbl : List Entry) (htbl : TableCore tbl) (hwf : EnvWF env)
    (fuel : Nat) (n : Node) (T : Ty) (hT : DictKeysOk T) (o : LoadOut)
    (h : loadNode env tbl fuel n T = .ok o) : typeMatches env o.value T = true := by
  have := (loadNode_all (E := fun _ => True)
    (.intro (processNode_tagged env tbl htbl hwf.paramNames fuel n T) fun _ _ => trivial)
    fun p hp => .intro (C := fun _ => True) (V := fun v => typeMatches env v T = true) (fun _ _ => trivial)
      (fun o => construct_conforms env tbl hwf fuel p T o hp hT) fun _ _ _ => trivial).2
  rwa [h] at this

/-- the hypotheses are satisfiable: a table with one class -/
example (ext : Ext) :
    EnvWF ⟨[⟨"A", [], [], .plain, false, [], [], none, none, none, fun _ => false⟩], ext⟩ := by
  refine ⟨by simp [Env.find], fun c d dd hd hf => ?_, fun e ee d dd c he hc => ?_, fun c d hf => ?_⟩
  · cases hd with
    | refl c => exact Or.inl rfl
    | step s hs _ => simp [Env.directSubclasses] at hs
  · cases List.mem_singleton.mp (find_mem _ _ _ he)
    cases hc
  · cases List.mem_singleton.mp (find_mem _ _ _ hf)
    exact .nil

end YatimlModel.C01
