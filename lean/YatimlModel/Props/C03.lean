import YatimlModel.Lemmas.RecSound
import YatimlModel.Model.Process
import YatimlModel.Lemmas.RecPerm
import YatimlModel.Lemmas.LoadPerm
/-!
# C03 — polymorphic positions resolve to the unique most-derived match, never a guess
-/
namespace YatimlModel.C03

/-- **Candidates.**  Where class `c` is expected, every recognised type is a class that is registered,
not abstract, and `c` itself or reachable from `c` through registered direct-subclass edges — for every
document, every tag in it and every custom recogniser. -/
theorem C03_candidates (env : Env) (fuel : Nat) (n : Node) (c : String) (ts : List Ty) (ls : List Leaf)
    (h : recognize env fuel n (.cls c) = .ok (ts, ls)) :
    ∀ t ∈ ts, ∃ d, t = .cls d ∧ Descends env c d ∧ Concrete env d := by
  intro t ht
  cases recognize_admits env fuel n (.cls c) ts ls h t ht with
  | self _ h1 _ => exact (h1 c rfl).elim
  | cls hd hc => exact ⟨_, rfl, hd, hc⟩

/-- abstract classes are never recognised (hence never instantiated) -/
theorem C03_abstract_never (env : Env) (fuel : Nat) (n : Node) (c : String) (ts : List Ty) (ls : List Leaf)
    (h : recognize env fuel n (.cls c) = .ok (ts, ls)) (d : ClassDef) (hd : env.find d.name = some d)
    (habs : d.abstract = true) : Ty.cls d.name ∉ ts := by
  intro hmem
  obtain ⟨e, he, _, dd, hfind, hconc⟩ := C03_candidates env fuel n c ts ls h _ hmem
  cases he
  rw [hd] at hfind
  cases hfind
  rw [habs] at hconc
  cases hconc

theorem C03_unregistered_never (env : Env) (fuel : Nat) (n : Node) (c : String) (ts : List Ty)
    (ls : List Leaf) (h : recognize env fuel n (.cls c) = .ok (ts, ls)) (d : String)
    (hd : env.find d = none) : Ty.cls d ∉ ts := by
  intro hmem
  obtain ⟨e, he, _, dd, hfind, _⟩ := C03_candidates env fuel n c ts ls h _ hmem
  cases he
  rw [hd] at hfind
  cases hfind

theorem C03_union_member (env : Env) (fuel : Nat) (n : Node) (ms : Tys) (ts : List Ty) (ls : List Leaf)
    (h : recognize env fuel n (.union ms) = .ok (ts, ls)) :
    ∀ t ∈ ts, ∃ m ∈ ms.toList, Admits env m t := by
  intro t ht
  have := recognize_admits env fuel n (.union ms) ts ls h t ht
  cases this with
  | self _ _ h2 => exact (h2 ms rfl).elim
  | unionMem hm ha => exact ⟨_, hm, ha⟩

/-- **Never a guess.**  If recognition does not single out exactly one type, processing the node fails
with a RecognitionError (carrying the leaves of the recognition error). -/
theorem C03_ambiguity_fails (env : Env) (tbl : List Entry) (fuel : Nat) (n : Node) (T : Ty)
    (ts : List Ty) (ls : List Leaf) (h : recognize env (fuel + 1) n T = .ok (ts, ls))
    (hne : ts.length ≠ 1) : processNode env tbl (fuel + 1) n T = .error (.recognition ls) := by
  unfold processNode
  rw [h]
  rcases ts with _ | ⟨_, _ | _⟩
  · rfl
  · exact (hne rfl).elim
  · rfl

/-- **An explicit tag picks among several candidates**, and only among them. -/
theorem C03_tag_picks (env : Env) (n : Node) (top : Bool) (ts : List Ty) (causes : List (List Leaf))
    (d : ClassDef) (hmany : ts.length > 1) (htag : env.byTag n.tag = some d)
    (hin : ts.contains (.cls d.name) = true) :
    finishClasses env n top ts causes = recOk (.cls d.name) :=
  finishClasses_pick top causes hmany htag (List.contains_iff_mem.mp hin)

/-- several candidates and no tag naming one of them: all of them are returned, so the load fails
(`C03_ambiguity_fails`) -/
theorem C03_no_tag_stays_ambiguous (env : Env) (n : Node) (top : Bool) (ts : List Ty)
    (causes : List (List Leaf)) (hmany : ts.length > 1) (htag : env.byTag n.tag = none) :
    ∃ ls, finishClasses env n top ts causes = .ok (ts, ls) :=
  (finishClasses_keep top causes (fun _ _ hd => nomatch htag ▸ hd)
    fun h1 => absurd h1 (Nat.ne_of_gt hmany)).imp fun _ => And.left

/-- **A conflicting or unknown tag makes the load fail**: one candidate, but the node carries a
non-core tag that does not name it. -/
theorem C03_bad_tag_fails (env : Env) (n : Node) (top : Bool) (t : Ty) (causes : List (List Leaf))
    (hcore : hasPrefix "tag:yaml.org,2002" n.tag = false)
    (hbad : ∀ d, env.byTag n.tag = some d → t ≠ .cls d.name) :
    finishClasses env n top [t] causes = recFail [n.mark] :=
  finishClasses_reject top causes rfl hcore fun d hd hin => hbad d hd (List.mem_singleton.mp hin).symm

/-- **Registration order.**  Two class tables holding the same classes (distinct names) in a different
order recognise the same *set* of types for every node and type, and fail fatally together.  (The class
table is consulted by order only in `directSubclasses`; every later stage — savorize, retagging, the
constructors, `isinstance` — looks classes up by name: `EnvPerm.find_eq`, `isRegistered_eq`, `byTag_eq`.) -/
theorem C03_registration_order (env env' : Env) (h : EnvPerm env env') (fuel : Nat) (n : Node) (T : Ty) :
    RRel (recognize env fuel n T) (recognize env' fuel n T) :=
  recognizeReq_perm env env' h fuel n (.ty T)

theorem C03_registration_order_single (env env' : Env) (h : EnvPerm env env') (fuel : Nat) (n : Node) (T R : Ty)
    (ls : List Leaf) (hr : recognize env fuel n T = .ok ([R], ls)) :
    ∃ ls', recognize env' fuel n T = .ok ([R], ls') :=
  (recognizeReq_permRel env env' h fuel n (.ty T)).singleton hr

/-- **The outcome of a load does not depend on the registration order**: with the same classes in
another order the load gives the same value, the same constructor calls, the same savorize trace and
the same processed tree — or fails in both cases.  (When it fails, the error leaves may come in another
order; with untamed custom recognisers raising foreign exceptions, which foreign exception surfaces may
differ too.) -/
theorem C03_load_registration_order (env env' : Env) (h : EnvPerm env env') (tbl : List Entry) (fuel : Nat)
    (n : Node) (T : Ty) :
    (∃ f f', loadNode env tbl fuel n T = .error f ∧ loadNode env' tbl fuel n T = .error f') ∨
    loadNode env tbl fuel n T = loadNode env' tbl fuel n T :=
  loadNode_perm env env' h tbl fuel n T

/-- **Order of Union members.** -/
theorem C03_union_member_order (env : Env) (fuel : Nat) (n : Node) (ms ms' : Tys)
    (hp : ms.toList.Perm ms'.toList) :
    RRel (recognize env (fuel + 1) n (.union ms)) (recognize env (fuel + 1) n (.union ms')) :=
  (recUnion_rel n hp fun _ => PermRel.refl _).rrel

theorem C03_union_member_order_single (env : Env) (fuel : Nat) (n : Node) (ms ms' : Tys)
    (hp : ms.toList.Perm ms'.toList) (R : Ty) (ls : List Leaf)
    (hr : recognize env (fuel + 1) n (.union ms) = .ok ([R], ls)) :
    ∃ ls', recognize env (fuel + 1) n (.union ms') = .ok ([R], ls') :=
  (recUnion_rel n hp fun _ => PermRel.refl _).singleton hr

/-- the premises are satisfiable: a table of two classes and its reversal -/
example (ext : Ext) :
    EnvPerm ⟨[⟨"A", [], [], .plain, false, [], [], none, none, none, fun _ => false⟩,
              ⟨"B", ["A"], ["A"], .plain, false, [], [], none, none, none, fun _ => false⟩], ext⟩
            ⟨[⟨"B", ["A"], ["A"], .plain, false, [], [], none, none, none, fun _ => false⟩,
              ⟨"A", [], [], .plain, false, [], [], none, none, none, fun _ => false⟩], ext⟩ :=
  ⟨List.Perm.swap _ _ _, by simp, rfl⟩

end YatimlModel.C03
