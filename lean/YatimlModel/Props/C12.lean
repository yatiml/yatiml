import YatimlModel.Gen.CallSites
/-!
# C12 — every source and sink kind gives the same result

`yaml.load` / `yaml.dump` are PyYAML: here they are *universally quantified* functions of their
arguments.  The theorems say that every branch of a generated function object calls them with the same
Loader/Dumper class and the same options, evaluated from the regenerated call-site table.  That a text
stream, a binary stream and a `str` decode to the same characters, and that `Path.open('w')` writes what
`StringIO` collects, is OS/CPython behaviour (exercised over all source/sink kinds on every run).
-/
namespace YatimlModel.C12
open YatimlModel.Gen

def sitesOf (f : String) : List CallSite := callSites.filter (fun s => s.factory == f)
def setupOf (f : String) : Option (List String) := factorySetup.lookup f

/-- the options a call site passes, evaluated for given values of the function's parameters -/
def evalKw (env : String → String) (kw : List (String × String)) : List (String × String) :=
  kw.map (fun e => (e.1, env e.2))

/-- what a call site makes of the object and the options: the abstract text PyYAML produces is a
function of (callee, first positional argument, evaluated keyword arguments) -/
def textOf (yaml : String → String → List (String × String) → String) (env : String → String)
    (s : CallSite) : String :=
  yaml s.callee (env (s.args.headD "")) (evalKw env s.kwargs)

def sameCall (f g : String) : Bool :=
  (sitesOf f).all (fun s => (sitesOf g).all (fun d =>
    s.callee == d.callee && s.args.head? == d.args.head? && s.kwargs == d.kwargs))

-- Evaluations of the regenerated table: `+kernel` skips the elaborator's own evaluation of the same term.
theorem dump_matches_dumps : sameCall "dump_function" "dumps_function" = true := by decide +kernel
theorem dump_json_matches_dumps_json : sameCall "dump_json_function" "dumps_json_function" = true := by
  decide +kernel
theorem load_sites_agree :
    (sitesOf "load_function").all (fun s => s.callee == "yaml.load" && s.kwargs == [("Loader", "CLS")]) = true := by
  decide +kernel
theorem setups_agree :
    setupOf "dump_function" = setupOf "dumps_function" ∧
    setupOf "dump_json_function" = setupOf "dumps_json_function" ∧
    (setupOf "dump_function").isSome = true ∧ (setupOf "dump_json_function").isSome = true :=
  -- `rfl` compares the two looked-up lists as terms; `decide` would compare their strings character by character
  ⟨rfl, rfl, rfl, rfl⟩
theorem sites_exist :
    (sitesOf "dump_function").length = 2 ∧ (sitesOf "dump_json_function").length = 2 ∧
    (sitesOf "dumps_function").length = 1 ∧ (sitesOf "dumps_json_function").length = 1 ∧
    (sitesOf "load_function").length = 2 := by decide +kernel

/-- the only tests and context managers a `__call__` may contain -/
def allowedBranch : List String :=
  ["isinstance(source, Path)", "not (isinstance(source, Path))", "isinstance(sink, Path)",
   "not (isinstance(sink, Path))", "with sink.open('w') as fh", "with source.open('r') as fh"]

/-- **The whole body.**  Apart from the yaml calls, a `__call__` contains nothing but the conversion of
a file name into a `Path`; no early return, no other statement.  A Path sink is opened with `'w'`
(truncating, text mode), a Path source with `'r'`; the `dumps` variants and `load` return PyYAML's
result itself, the `dump` variants return nothing. -/
theorem skeleton :
    otherStatements = [("dump_function", ["isinstance(sink, str)"], "sink = Path(sink)"),
                       ("dump_json_function", ["isinstance(sink, str)"], "sink = Path(sink)")] ∧
    callSites.all (fun s => s.branch.all (fun b => allowedBranch.contains b)) = true ∧
    callSites.all (fun s => s.returned ==
      (s.factory == "load_function" || s.factory == "dumps_function" || s.factory == "dumps_json_function")) = true := by
  decide +kernel

theorem textOf_eq_of_sameCall {f g : String} (h : sameCall f g = true)
    (yaml : String → String → List (String × String) → String) (env : String → String) :
    ∀ s ∈ sitesOf f, ∀ d ∈ sitesOf g, textOf yaml env s = textOf yaml env d := by
  intro s hs d hd
  simp only [sameCall, List.all_eq_true, Bool.and_eq_true, beq_iff_eq] at h
  obtain ⟨⟨h1, h2⟩, h3⟩ := h s hs d hd
  rw [textOf, textOf, List.headD_eq_head?_getD, List.headD_eq_head?_getD, h1, h2, h3]

/-- **Sinks.**  Whatever PyYAML's `yaml.dump` is, for every object and every option values, each branch
of `dump_function` (file name, Path, open stream) hands PyYAML the same object, the same Dumper class
and the same options as `dumps_function` does — so the text written is the text returned; likewise for
the JSON pair, including `indent` and `ensure_ascii`. -/
theorem C12_sinks_equal (yaml : String → String → List (String × String) → String) (env : String → String) :
    (∀ s ∈ sitesOf "dump_function", ∀ d ∈ sitesOf "dumps_function", textOf yaml env s = textOf yaml env d) ∧
    (∀ s ∈ sitesOf "dump_json_function", ∀ d ∈ sitesOf "dumps_json_function",
      textOf yaml env s = textOf yaml env d) :=
  ⟨textOf_eq_of_sameCall dump_matches_dumps yaml env,
   textOf_eq_of_sameCall dump_json_matches_dumps_json yaml env⟩

/-- **Sources.**  Every branch of `LoadFunction.__call__` (Path opened for reading, or the str / stream
itself) reaches `yaml.load` with the function's own Loader class and nothing else. -/
theorem C12_sources_equal (s d : CallSite) (hs : s ∈ sitesOf "load_function") (hd : d ∈ sitesOf "load_function") :
    s.callee = d.callee ∧ s.kwargs = d.kwargs := by
  have h := List.all_eq_true.mp load_sites_agree
  have h1 := h s hs
  have h2 := h d hd
  simp only [Bool.and_eq_true, beq_iff_eq] at h1 h2
  exact ⟨h1.1.trans h2.1.symm, h1.2.trans h2.2.symm⟩

end YatimlModel.C12
