import YatimlModel.Lemmas.ConsAll
import YatimlModel.Props.C03
import YatimlModel.Lemmas.RecSound
/-!
# C17 — recognition errors point at the offending place

The model's `LoadErr.recognition` carries, per leaf of the error tree, the positions and the key names
the message cites (the message text itself is not modelled).  The theorems pin down what each failure
site cites; the correspondence run compares the cited position *sets* (and that the named keys occur)
with the real message on every failing case.
-/
namespace YatimlModel.C17
open NodeOps

/-- every error raised through `errAt` cites exactly one position -/
theorem C17_errAt_one_position (m : Mark) (keys : List String) :
    errAt m keys = .recognition [⟨[m], keys⟩] := rfl

/-- a built-in scalar type that does not match cites the node itself -/
theorem C17_scalar_mismatch_cites_node (n : Node) (T : Ty) (tag : String) (ts : List Ty) (ls : List Leaf)
    (h : recScalar n T tag = .ok (ts, ls)) (hfail : ts = []) : ls = [⟨[n.mark], []⟩] := by
  rw [recScalar_eq] at h
  split at h
  · cases (recOk_eq_ok_iff.mp h).1.symm.trans hfail
  · exact (recFail_eq_ok_iff.mp h).2

/-- **A missing required key is named**, with the position of the mapping it is missing from. -/
theorem C17_missing_key_named (rec : Node → Ty → RecRes) (n : Node) (ps : List (Node × Node)) (p : Param)
    (hreq : p.required = true) (h1 : hasKey ps p.name = false) (h2 : hasKey ps (dashed p.name) = false) :
    recAttr rec n ps p = .ok (some [⟨[n.mark], [p.name]⟩]) := by
  rw [recAttr_eq, h1, h2, hreq]
  rfl

/-- **An unknown key is named**, with the position of the key. -/
theorem C17_unknown_key_named (env : Env) (d : ClassDef) (n : Node) (ps : List (Node × Node))
    (k : String) (v : PyVal) (hnone : ∀ p ∈ d.params, dictGet [(.scalar (.str k), v)] p.name = none)
    (hopt : ∀ p ∈ d.params, p.required = false)
    (hk : d.argNames.contains k = false) (hs : (k != "self") = true) (hx : d.takesExtra = false) :
    checkAttributes env d n ps [(.scalar (.str k), v)] = some (errAt (firstKeyMark ps k n.mark) [k]) := by
  -- the two ways `checkAttributes` answers: the sweep over the parameters finds a fault, or the keys are swept
  fun_cases checkAttributes env d n ps [(.scalar (.str k), v)]
  · rename_i e he
    obtain ⟨p, hp, hpe⟩ := List.exists_of_findSome?_eq_some he
    simp [hnone p hp, hopt p hp] at hpe
  · rw [List.findSome?_cons]
    dsimp only
    rw [if_pos (by rw [hk, hs, hx]; rfl)]

/-- the first sweep of `checkAttributes` reports a value of the wrong type at the mark of the mapping -/
theorem checkAttributes_wrong_type (env : Env) (d : ClassDef) (n : Node) (ps : List (Node × Node)) (p : Param)
    (v : PyVal) (hparams : d.params = [p]) (hbad : typeMatches env v p.ty = false) :
    checkAttributes env d n ps [(.scalar (.str p.name), v)] = some (errAt n.mark [p.name]) := by
  -- on two plain strings `keyEq` is `==` of `PyVal`
  have hk : keyEq (.scalar (.str p.name)) (.scalar (.str p.name)) = true := beq_iff_eq.mpr rfl
  unfold checkAttributes
  rw [hparams, List.findSome?_cons, dictGet, List.find?_cons, hk]
  dsimp only [Option.map]
  rw [hbad]
  rfl

/-- **An attribute of the wrong type** cites the position of the value and names the attribute. -/
theorem C17_wrong_attribute_type_cites_value (env : Env) (d : ClassDef) (n : Node)
    (ps : List (Node × Node)) (p : Param) (v : PyVal)
    (hparams : d.params = [p]) (hann : p.annotated = true)
    (hbad : typeMatches env v p.ty = false) :
    ∃ m, checkAttributes env d n ps [(.scalar (.str p.name), v)] = some (errAt m [p.name]) :=
  ⟨n.mark, checkAttributes_wrong_type env d n ps p v hparams hbad⟩

/-- every recognition error the construction phase reports cites a position -/
theorem C17_construct_errors_positioned (env : Env) (d : ClassDef) (n : Node) (ps : List (Node × Node))
    (mapping : List (PyVal × PyVal)) (e : LoadErr) (h : checkAttributes env d n ps mapping = some e) :
    ∃ m keys, e = .recognition [⟨[m], keys⟩] :=
  checkAttributes_errAt h

/-- **Every recognition failure cites a position.**  For every class model (custom recognisers
included), node, type and fuel: when recognition does not single out exactly one type, the error it
returns has at least one leaf and every leaf cites at least one position. -/
theorem C17_recognition_failure_positioned (env : Env) (fuel : Nat) (n : Node) (T : Ty) (ts : List Ty)
    (ls : List Leaf) (h : recognize env fuel n T = .ok (ts, ls)) (hne : ts.length ≠ 1) :
    ls ≠ [] ∧ ∀ l ∈ ls, l.marks ≠ [] :=
  (recognizeReq_answerOk env fuel n (.ty T) ts ls h).leaves hne

/-- hence the RecognitionError with which processing a node refuses an unrecognised or ambiguous node
cites a position in every leaf -/
theorem C17_unrecognised_node_error_positioned (env : Env) (tbl : List Entry) (fuel : Nat) (n : Node) (T : Ty)
    (ts : List Ty) (ls : List Leaf) (h : recognize env (fuel + 1) n T = .ok (ts, ls)) (hne : ts.length ≠ 1) :
    processNode env tbl (fuel + 1) n T = .error (.recognition ls) ∧ ls ≠ [] ∧ ∀ l ∈ ls, l.marks ≠ [] :=
  ⟨C03.C03_ambiguity_fails env tbl fuel n T ts ls h hne,
   C17_recognition_failure_positioned env (fuel + 1) n T ts ls h hne⟩

/-- **A repeated key is reported at its mapping.**  When the recognition of an auto-recognised class
finds an attribute key more than once in a mapping (`get_attribute` raises), the error that ends the
load cites the position of *that* mapping (next to the node being processed), wherever in the document
it is; an error that already names a mapping further in is passed on unchanged. -/
theorem C17_repeated_key_cites_mapping (env : Env) (rec : Node → Ty → RecRes) (d : ClassDef)
    (tag : String) (ps : Pairs) (m : Mark) (hr : d.recognize = none) (hk : d.kind = .plain)
    (h : recAttrs rec (.map tag ps m) ps.toList d.params = .error (.seasoning [])) (root : Node) :
    recUserClass env rec (.map tag ps m) d = .error (.seasoning [m]) ∧
    fatalToErr root (.seasoning [m]) = .recognition [⟨[root.mark, m], []⟩] := by
  refine ⟨?_, rfl⟩
  unfold recUserClass
  simp only [hr, hk, h, Fatal.atMapping, Node.mark]

theorem C17_repeated_key_inner_kept (env : Env) (rec : Node → Ty → RecRes) (d : ClassDef)
    (tag : String) (ps : Pairs) (m m' : Mark) (ms : List Mark) (hr : d.recognize = none) (hk : d.kind = .plain)
    (h : recAttrs rec (.map tag ps m) ps.toList d.params = .error (.seasoning (m' :: ms))) :
    recUserClass env rec (.map tag ps m) d = .error (.seasoning (m' :: ms)) := by
  unfold recUserClass
  simp only [hr, hk, h, Fatal.atMapping]

end YatimlModel.C17
