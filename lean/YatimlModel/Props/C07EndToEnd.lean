import YatimlModel.Props.C07Parse
import YatimlModel.Spec.JsonProjection
import YatimlModel.Lemmas.IntNumber
import YatimlModel.Lemmas.Represent
import YatimlModel.Lemmas.CoreTags
/-!
# C07 end to end — the text `dumps_json` writes for a value parses to the value's JSON projection

The chain, all inside the model:

    value ──represent──► node tree ──serializer (ofNode / evDoc)──► events ──emit_json──► text
    value ──jsonOf (the JSON projection, stated on its own)──► JSON value ◄──parseJson── text

`jsonOf` is the property's "JSON projection of the object (the YAML projection with dates as ISO
strings)": `None`, booleans and numbers as such, strings, paths, enum members (by name),
string-likes and dates as strings, lists as arrays, dicts as objects in order, a user object as the
object of its constructor parameters in declaration order followed by its extra attributes.  It is
`none` outside C07's domain (bytes, keys that are not strings).
-/
namespace YatimlModel.C07
open YatimlModel.Json YatimlModel.JsonParse

/-- `str.lower` on the two texts `represent_bool` writes -/
def LowerOk (f : TextFns) : Prop := f.lower "true" = "true" ∧ f.lower "false" = "false"

/-- every float in the value is written as a number text (`repr(float)` of a finite float is one:
`C07_number_texts_wf`); for integers this is a theorem (`int_numText`), not a hypothesis -/
def NumsOk : Nat → PyVal → Prop
  | 0, _ => True
  | fuel + 1, v =>
    match v with
    | .scalar (.float r _) => NumText (codes (floatText r))
    | .list xs => ∀ x ∈ xs.toList, NumsOk fuel x
    | .dict kvs => ∀ e ∈ kvs.toList, NumsOk fuel e.2
    | .obj _ kw => ∀ e ∈ attributesOf kw.toList, NumsOk fuel e.2
    | _ => True

theorem int_numText (i : Int) : NumText (codes (toString i)) :=
  number_texts _ ((rmatch_iff_lang _ _).mpr (Lang.altL (int_text_lang i)))

/-! ### the represented tree of a value denotes the value's projection -/

-- `-BEq.rfl` here and below: on two equal tag names it starts a search for `ReflBEq String`; `String.reduceBEq` decides them
theorem skOfTag_str : skOfTag tStr = .str := by simp [-BEq.rfl, skOfTag, core_tags]

theorem ofNodes_ofList (ns : List Node) :
    ofNodes (Nodes.ofList ns) = ns.foldr (fun x acc => JL.cons (ofNode x) acc) JL.nil := by
  induction ns with
  | nil => simp [Nodes.ofList, ofNodes]
  | cons x xs ih => simp [Nodes.ofList, ofNodes, ih]

theorem ofPairs_ofList (ps : List (Node × Node)) :
    ofPairs (Pairs.ofList ps) = ps.foldr (fun p acc => JKL.cons (ofNode p.1) (ofNode p.2) acc) JKL.nil := by
  induction ps with
  | nil => simp [Pairs.ofList, ofPairs]
  | cons p ps ih => obtain ⟨k, v⟩ := p; simp [Pairs.ofList, ofPairs, ih]

theorem ofNode_str (s : String) (m : Mark) : ofNode (.scalar tStr s m) = JT.scalar SK.str s := by
  simp only [ofNode, skOfTag_str]

theorem key_node (env : DumpEnv) (hns : NoSweeten env) (fuel : Nat) (k : PyVal) (o : RepOut) (kc : List Nat)
    (hr : represent env fuel k = .ok o) (hk : keyText k = some kc) :
    ∃ s, ofNode o.node = JT.scalar SK.str s ∧ codes s = kc := by
  cases fuel with
  | zero => cases hr
  | succ fuel =>
    have hb := represent_builtin env hr
    have hc := represent_class env hns hr
    revert hk
    -- the four kinds of key with a text, in `keyText`'s order (str, string-like, enum member, path), then the rest
    fun_cases keyText k <;> intro hk
    · exact ⟨_, by rw [hb]; exact ofNode_str _ _, Option.some.inj hk⟩
    · exact ⟨_, by rw [hc]; exact ofNode_str _ _, Option.some.inj hk⟩
    · exact ⟨_, by rw [hc]; exact ofNode_str _ _, Option.some.inj hk⟩
    · exact ⟨_, by rw [hb]; exact ofNode_str _ _, Option.some.inj hk⟩
    · cases hk

section proj
variable (env : DumpEnv) (f : TextFns)

def Proj (fuel : Nat) : Prop := ∀ (v : PyVal) (o : RepOut) (jv : JV),
  represent env fuel v = .ok o → jsonOf fuel v = some jv → NumsOk fuel v →
  toJV f (ofNode o.node) = jv ∧ WfT f (ofNode o.node)

theorem proj_items (fuel : Nat) (ih : Proj env f fuel) {xs : List PyVal} {ns : List Node}
    (t : All2 (RepTo (represent env fuel)) xs ns) :
    ∀ (js : JVs), jsonItems (jsonOf fuel) xs = some js → (∀ x ∈ xs, NumsOk fuel x) →
      toJVs f (ofNodes (Nodes.ofList ns)) = js ∧ WfL f (ofNodes (Nodes.ofList ns)) := by
  induction t with
  | nil => intro js hj _; cases hj; exact ⟨rfl, trivial⟩
  | @cons x _ _ _ hx _ iht =>
    obtain ⟨o, ho, hnode⟩ := hx
    intro js hj hn
    unfold jsonItems at hj
    split at hj
    · rename_i a b ha hb
      cases hj
      cases hnode
      obtain ⟨h1, h2⟩ := ih x o a ho ha (hn x List.mem_cons_self)
      obtain ⟨h3, h4⟩ := iht b hb (fun y hy => hn y (List.mem_cons_of_mem _ hy))
      exact ⟨by simp only [Nodes.ofList, ofNodes, toJVs, h1, h3], h2, h4⟩
    · cases hj

theorem proj_pairs (hns : NoSweeten env) (fuel : Nat) (ih : Proj env f fuel)
    {kvs : List (PyVal × PyVal)} {ps : List (Node × Node)}
    (t : All2 (fun e p => RepTo (represent env fuel) e.1 p.1 ∧ RepTo (represent env fuel) e.2 p.2) kvs ps) :
    ∀ (js : JKVs), jsonPairs (jsonOf fuel) kvs = some js → (∀ e ∈ kvs, NumsOk fuel e.2) →
      toJKVs f (ofPairs (Pairs.ofList ps)) = js ∧ WfK f (ofPairs (Pairs.ofList ps)) := by
  induction t with
  | nil => intro js hj _; cases hj; exact ⟨rfl, trivial⟩
  | @cons e p _ _ hx _ iht =>
    obtain ⟨k, v⟩ := e
    obtain ⟨kn, vn⟩ := p
    obtain ⟨⟨ko, hko, hkn⟩, ⟨vo, hvo, hvn⟩⟩ := hx
    intro js hj hn
    unfold jsonPairs at hj
    split at hj
    · rename_i a b c ha hb hc
      cases hj
      cases hkn
      cases hvn
      obtain ⟨s, hs1, hs2⟩ := key_node env hns fuel k ko a hko ha
      obtain ⟨h1, h2⟩ := ih v vo b hvo hb (hn (k, v) List.mem_cons_self)
      obtain ⟨h3, h4⟩ := iht c hc (fun e he => hn e (List.mem_cons_of_mem _ he))
      exact ⟨by simp only [Pairs.ofList, ofPairs, toJKVs, hs1, keyOf, hs2, h1, h3], ⟨s, hs1⟩, h2, h4⟩
    · cases hj

theorem proj_str (s : String) (m : Mark) :
    toJV f (ofNode (.scalar tStr s m)) = .str (codes s) ∧ WfT f (ofNode (.scalar tStr s m)) := by
  rw [ofNode_str]; exact ⟨rfl, trivial⟩

theorem proj_all (hns : NoSweeten env) (hl : LowerOk f) : ∀ fuel, Proj env f fuel := by
  intro fuel
  induction fuel with
  | zero => intro v o jv hr; cases hr
  | succ fuel ih =>
    intro v o jv hr hj hn
    have hb := represent_builtin env hr
    have hc := represent_class env hns hr
    cases v with
    | scalar s =>
      rw [hb]
      cases s with
      | none =>
        cases hj
        simp [-BEq.rfl, representScalar, ofNode, skOfTag, core_tags, toJV, scalarJV, WfT, WfScalar]
      | bool b =>
        cases hj
        cases b <;> simp [-BEq.rfl, representScalar, ofNode, skOfTag, core_tags, toJV, scalarJV, WfT, WfScalar, hl.1, hl.2]
      | int i =>
        cases hj
        simpa [-BEq.rfl, representScalar, ofNode, skOfTag, core_tags, toJV, scalarJV, WfT, WfScalar] using int_numText i
      | float r a =>
        cases hj
        simpa [-BEq.rfl, representScalar, ofNode, skOfTag, core_tags, toJV, scalarJV, WfT, WfScalar, NumsOk] using hn
      | str s => cases hj; exact proj_str f s _
    | date r =>
      rw [hb]; cases hj
      simp [-BEq.rfl, ofNode, skOfTag, core_tags, toJV, scalarJV, WfT, WfScalar]
    | bytes r => cases hj
    | path s => rw [hb]; cases hj; exact proj_str f s _
    | enumMember c s | userStr c s => rw [hc]; cases hj; exact proj_str f s _
    | list xs =>
      obtain ⟨ns, hnode, ha⟩ := hb
      obtain ⟨js, hjs, rfl⟩ := Option.map_eq_some_iff.mp hj
      obtain ⟨h1, h2⟩ := proj_items env f fuel ih ha js hjs hn
      rw [hnode]
      exact ⟨congrArg JV.arr h1, h2⟩
    | dict kvs =>
      obtain ⟨ps, hnode, ha⟩ := hb
      obtain ⟨js, hjs, rfl⟩ := Option.map_eq_some_iff.mp hj
      obtain ⟨h1, h2⟩ := proj_pairs env f hns fuel ih ha js hjs hn
      rw [hnode]
      exact ⟨congrArg JV.obj h1, h2⟩
    | obj c kw =>
      obtain ⟨ps, hnode, ha⟩ := hc
      obtain ⟨js, hjs, rfl⟩ := Option.map_eq_some_iff.mp hj
      obtain ⟨h1, h2⟩ := proj_pairs env f hns fuel ih ha js hjs hn
      rw [hnode]
      exact ⟨congrArg JV.obj h1, h2⟩

end proj

/-- **`dumps_json` writes the JSON projection.**  For every value of C07's domain (`jsonOf` defined:
no bytes, string-like keys) whose classes have no `_yatiml_sweeten`, for every indent setting,
`ensure_ascii` mode and line break: if the value can be represented, the emitter machine — fed the
events of the represented tree — writes a text that the RFC 8259 reference parser reads as exactly the
value's JSON projection. -/
theorem C07_dumps_json_is_projection (env : DumpEnv) (cfg : Cfg) (a : Bool) (lb : String)
    (hns : NoSweeten env) (hl : LowerOk cfg.fns) (hd : DumpsIs cfg.fns a)
    (hk : JsonParse.WfCfg cfg) (hlb : AllWs (codes lb))
    (fuel : Nat) (v : PyVal) (o : RepOut) (jv : JV)
    (hr : represent env fuel v = .ok o) (hj : jsonOf fuel v = some jv) (hn : NumsOk fuel v) :
    ∃ out, run cfg init (evDoc (ofNode o.node)) = some (init, out) ∧
      parseJson (codes (textOf lb out)) = some jv := by
  obtain ⟨h1, h2⟩ := proj_all env cfg.fns hns hl fuel v o jv hr hj hn
  obtain ⟨out, ho, hp⟩ := C07_emitted_text_is_json cfg a lb hd hk hlb (ofNode o.node) h2
  exact ⟨out, ho, by rw [hp, h1]⟩

end YatimlModel.C07

/-! ### non-vacuity: a concrete class model and value meeting every hypothesis -/
namespace YatimlModel.C07
open YatimlModel.JsonParse

def envE : DumpEnv :=
  { registered := [⟨"Point", [], .plain, none, none⟩, ⟨"Color", [], .enum ["red"], none, none⟩],
    builtinRepresenters := [] }

def valE : PyVal :=
  .obj "Point" (PyKVs.ofList [
    (.scalar (.str "x"), .scalar (.int (-3))),
    (.scalar (.str "tags"), .list (PyVals.ofList [.scalar (.str "a\"b"), .enumMember "Color" "red",
        .scalar .none, .scalar (.bool true)])),
    (.scalar (.str "_yatiml_extra"), .dict (PyKVs.ofList [(.scalar (.str "k"), .date "2020-01-02")]))])

example : NoSweeten envE := by simp [NoSweeten, envE]

example : (represent envE 4 valE).toOption.isSome = true := by decide +kernel
example : (jsonOf 4 valE).isSome = true := by decide +kernel
example : NumText (codes (toString (-3 : Int))) := int_numText (-3)

end YatimlModel.C07

namespace YatimlModel.C07
/-- `str(i)` of **every** integer is a JSON number text (no hypothesis, no bound): what `represent_int`
writes and `emit_json` copies verbatim is an RFC 8259 number -/
theorem C07_int_texts_are_numbers (i : Int) (f : YatimlModel.Json.TextFns) :
    YatimlModel.JsonParse.WfScalar f .other (toString i) :=
  int_numText i
end YatimlModel.C07
