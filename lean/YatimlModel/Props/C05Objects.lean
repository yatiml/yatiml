import YatimlModel.Props.C05Objects.Described
import YatimlModel.Props.C05Objects.Examples
/-!
# C05 for simple objects, closed: what the representers write for an object loads back as that object

The closed-form round trip of `Props/C05Plain` extended to user objects of *simple* classes — plain
classes without hooks (`_yatiml_recognize`, `_yatiml_savorize`, `_yatiml_sweeten`), without registered
bases or registered subclasses, not abstract, with or without `_yatiml_extra` — and of leaf classes declared
as one of their registered ancestors.  For these the description `RT` (with its per-node uniqueness of
recognition) is *derived* from the model of the representers, so the round trip holds with no precondition
about recognition, for every resolver table.
-/
namespace YatimlModel.C05

/-- **Round trip for simple objects (node level), closed form.**  For every class model, resolver table
and value made of plain data (strings, integers, booleans, `None`, floats whose `repr` CPython's
`float()` reads back, paths, lists, string-keyed dicts), members of enums and string-likes without hooks,
objects of *simple* classes (plain, no hooks, no registered bases or subclasses, not abstract; with or
without `_yatiml_extra`, whose extra attributes hold plain data), `Optional[...]` positions, Unions whose
members accept pairwise different kinds of node, and objects of a leaf class declared as one of its
registered ancestors (at most `K` steps up; the sibling subtrees next to the path reject the mapping, each
for lack of a required parameter; also behind an `Optional`), nested to any depth: if the dump side has no
`_yatiml_sweeten` hooks, the node tree the representers build loads back — with enough fuel for the
depth of the value — as exactly that value: same classes, equal attribute values, same list and mapping
order.  No precondition about recognition: its uniqueness at every node is derived. -/
theorem C05_simple_objects_roundtrip (K : Nat) (env : Env) (denv : DumpEnv) (tbl : List Entry)
    (hns : C07.NoSweeten denv) (g f : Nat) (T : Ty) (v : PyVal) (o : RepOut)
    (hrep : represent denv g v = .ok o) (hty : HasTyE K env T v) (hf : need K v ≤ f) :
    ∃ calls trace processed, loadNode env tbl f o.node T = .ok ⟨v, calls, trace, processed⟩ :=
  (simple_described K env denv tbl hns g T v o hrep hty f hf).elim
    (fun _ hR => RT_load env tbl f T v o.node (DescAt.toRT hR))

end YatimlModel.C05
