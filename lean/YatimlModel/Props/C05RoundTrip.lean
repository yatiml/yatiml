import YatimlModel.Props.C05Objects
/-!
# C05 — the round trip at node level

`C05_node_roundtrip`: whatever node tree the representers produce for a value `v`, if it is a *faithful
description* of `v` for the declared type (`RT`: at every node recognition singles out one type, and
the node has the shape of a represented value of that kind), then loading it returns exactly `v`
(proof: `Lemmas/RoundTrip`).

The shapes the representers produce are established separately (`C05_scalars_described`,
`C05_ints_described`, `C05_represent_*`, by evaluation in the worked example); unambiguity of recognition is the property's own precondition
("classes registered with both functions", unambiguous models) and stays a hypothesis, stated per
node in terms of the recogniser itself.
-/
namespace YatimlModel.C05RT

/-- **Node-level round trip**: if the represented node faithfully describes the value, `load` returns
the value — same classes, equal attribute values, same list and mapping order. -/
theorem C05_node_roundtrip (env : Env) (denv : DumpEnv) (tbl : List Entry) (fuel f : Nat) (T : Ty)
    (v : PyVal) (o : RepOut) (_hrep : represent denv f v = .ok o)
    (hdesc : RT env tbl fuel T v o.node) :
    ∃ calls trace processed, loadNode env tbl fuel o.node T = .ok ⟨v, calls, trace, processed⟩ :=
  RT_load env tbl fuel T v o.node hdesc

/-- the same for any node that describes the value, wherever it came from (marks are irrelevant) -/
theorem C05_described_node_loads (env : Env) (tbl : List Entry) (fuel : Nat) (T : Ty) (v : PyVal) (n : Node)
    (hdesc : RT env tbl fuel T v n) :
    ∃ calls trace processed, loadNode env tbl fuel n T = .ok ⟨v, calls, trace, processed⟩ :=
  RT_load env tbl fuel T v n hdesc

theorem C05_described_value_unique (env : Env) (tbl : List Entry) (fuel : Nat) (T : Ty) (v v' : PyVal) (n : Node)
    (h : RT env tbl fuel T v n) (h' : RT env tbl fuel T v' n) : v = v' := by
  obtain ⟨c, t, p, hl⟩ := RT_load env tbl fuel T v n h
  obtain ⟨c', t', p', hl'⟩ := RT_load env tbl fuel T v' n h'
  rw [hl] at hl'
  injection hl' with hl'
  injection hl'

/-- **dumping is faithful**: two values that are represented by the same node, both of them described by
it, are the same value (nothing is lost on the way out) -/
theorem C05_dump_injective (env : Env) (denv : DumpEnv) (tbl : List Entry) (fuel f : Nat) (T : Ty) (v v' : PyVal)
    (o o' : RepOut) (hr : represent denv f v = .ok o) (hr' : represent denv f v' = .ok o')
    (hsame : o.node = o'.node) (h : RT env tbl fuel T v o.node) (h' : RT env tbl fuel T v' o'.node) : v = v' := by
  rw [← hsame] at h'
  exact C05_described_value_unique env tbl fuel T v v' o.node h h'

/-- strings, booleans and null are represented by nodes of the described shape, whatever their text
("strings that look like numbers, booleans, nulls" are `!!str` nodes and come back as strings) -/
theorem C05_scalars_described (env : Env) (tbl : List Entry) (fuel : Nat) (rt : Ty → PyVal → Node → Prop) :
    (∀ s, RTcore env tbl fuel rt .str (.scalar (.str s)) (representScalar (.str s))) ∧
    (∀ b, RTcore env tbl fuel rt .bool (.scalar (.bool b)) (representScalar (.bool b))) ∧
    RTcore env tbl fuel rt .null (.scalar .none) (representScalar .none) :=
  ⟨fun s => .str s _, fun b => .bool b _ _ (C05.constructBool_repr b), .null _ _⟩

/-- **integers**: the decimal text `represent_int` writes is read back by `construct_yaml_int` as the same
integer, for every integer (`Lemmas/IntText.constructInt_int`: sign, no leading zero, no `_`, no `:`, base
10), so a represented int is a node of the described shape -/
theorem C05_ints_described (env : Env) (tbl : List Entry) (fuel : Nat) (rt : Ty → PyVal → Node → Prop) (i : Int) :
    RTcore env tbl fuel rt .int (.scalar (.int i)) (representScalar (.int i)) :=
  RTcore.int i (toString i) _ (constructInt_int i)

theorem C05_int_roundtrip (env : Env) (tbl : List Entry) (fuel : Nat) (i : Int) :
    ∃ calls trace processed,
      loadNode env tbl (fuel + 1) (representScalar (.int i)) .int = .ok ⟨.scalar (.int i), calls, trace, processed⟩ :=
  RT_load _ _ _ _ _ _ (C05.DescAt.toRT (.leaf rfl (C05_ints_described env tbl fuel _ i)))

/-! ## the shapes the representers produce (for classes without `_yatiml_sweeten`): exactly the node shapes
that `RTcore` describes -/

theorem C05_represent_enum (denv : DumpEnv) (f : Nat) (c name : String) (d : DumpClass)
    (hd : denv.find c = some d) (hs : d.sweetenMro = none) :
    represent denv (f + 1) (.enumMember c name) = .ok ⟨.scalar tStr name gen, []⟩ := by
  simp [represent, hd, hs]

theorem C05_represent_stringlike (denv : DumpEnv) (f : Nat) (c s : String) (d : DumpClass)
    (hd : denv.find c = some d) (hs : d.sweetenMro = none) :
    represent denv (f + 1) (.userStr c s) = .ok ⟨.scalar tStr s gen, []⟩ := by
  simp [represent, hd, hs]

theorem C05_represent_list (denv : DumpEnv) (f : Nat) (xs : PyVals) (ns : List Node) (tr : List String)
    (h : repItems (represent denv f) xs.toList = .ok (ns, tr)) :
    represent denv (f + 1) (.list xs) = .ok ⟨.seq tSeq (Nodes.ofList ns) gen, tr⟩ := by
  simp [represent, h]

theorem C05_represent_dict (denv : DumpEnv) (f : Nat) (kvs : PyKVs) (ps : List (Node × Node)) (tr : List String)
    (h : repPairs (represent denv f) kvs.toList = .ok (ps, tr)) :
    represent denv (f + 1) (.dict kvs) = .ok ⟨.map tMap (Pairs.ofList ps) gen, tr⟩ := by
  simp [represent, h]

theorem C05_represent_object (denv : DumpEnv) (f : Nat) (c : String) (kw : PyKVs) (d : DumpClass)
    (ps : List (Node × Node)) (tr : List String) (hd : denv.find c = some d)
    (hown : d.sweetenOwn = none) (hbases : d.bases.filterMap (fun b => denv.find b) = [])
    (h : repPairs (represent denv f) (attributesOf kw.toList) = .ok (ps, tr)) :
    represent denv (f + 1) (.obj c kw) = .ok ⟨.map tMap (Pairs.ofList ps) gen, tr ++ []⟩ := by
  simp [represent, hd, h, sweeten, hown, hbases]

/-- a string, whatever its text, loads back as that string when a `str` is expected -/
theorem C05_string_roundtrip (env : Env) (tbl : List Entry) (fuel : Nat) (s : String) :
    ∃ calls trace processed,
      loadNode env tbl (fuel + 1) (representScalar (.str s)) .str = .ok ⟨.scalar (.str s), calls, trace, processed⟩ :=
  RT_load _ _ _ _ _ _ (C05.DescAt.toRT (.leaf rfl (.str s _)))

/-! ## a worked example: the hypotheses are satisfiable by a model with an enum whose member is spelt
like a boolean, a string-like, a list of strings that look like other scalars, and extra attributes -/

def exExt : Ext := ⟨fun _ => none, fun _ => none, fun _ => none⟩
def colour : ClassDef :=
  { name := "Colour", bases := [], ancestors := [], kind := .enum ["red", "true"], abstract := false, params := [], argNames := [], extraTy := none, recognize := none, savorize := none, initRaises := fun _ => false }
def nameC : ClassDef :=
  { name := "Name", bases := [], ancestors := [], kind := .stringLike, abstract := false, params := [], argNames := ["s"], extraTy := none, recognize := none, savorize := none, initRaises := fun _ => false }
def shape : ClassDef :=
  { name := "Shape", bases := [], ancestors := [], kind := .plain, abstract := false, params := [⟨"name", .cls "Name", true, true⟩, ⟨"tags", .seq .list .str, true, true⟩, ⟨"colour", .cls "Colour", true, false⟩], argNames := ["name", "tags", "colour", "_yatiml_extra"], extraTy := none, recognize := none, savorize := none, initRaises := fun _ => false }
def exEnv : Env := ⟨[colour, nameC, shape], exExt⟩
def exDenv : DumpEnv :=
  ⟨[⟨"Colour", [], .enum ["red", "true"], none, none⟩, ⟨"Name", [], .stringLike, none, none⟩, ⟨"Shape", [], .plain, none, none⟩], ["str", "list", "dict", "bool"]⟩

def mainKw : List (PyVal × PyVal) :=
  [(strKey "name", .userStr "Name" "sq"),
   (strKey "tags", .list (PyVals.ofList [.scalar (.str "12"), .scalar (.str "true")])),
   (strKey "colour", .enumMember "Colour" "true")]
def extraKw : List (PyVal × PyVal) := [(strKey "note", .scalar (.bool true))]
def exVal : PyVal := .obj "Shape" (PyKVs.ofList (mainKw ++ [(strKey "_yatiml_extra", .dict (PyKVs.ofList extraKw))]))

def mainPs : List (Node × Node) :=
  [(.scalar tStr "name" gen, .scalar tStr "sq" gen),
   (.scalar tStr "tags" gen, .seq tSeq (Nodes.ofList [.scalar tStr "12" gen, .scalar tStr "true" gen]) gen),
   (.scalar tStr "colour" gen, .scalar tStr "true" gen)]
def extraPs : List (Node × Node) := [(.scalar tStr "note" gen, .scalar tBool "true" gen)]
def exNode : Node := .map tMap (Pairs.ofList (mainPs ++ extraPs)) gen

theorem ex_represented : represent exDenv 6 exVal = .ok ⟨exNode, []⟩ := by rfl

theorem nameC_leaf : C05.SimpleLeafClass exEnv nameC := ⟨rfl, rfl, rfl, rfl, rfl, by decide⟩
theorem colour_leaf : C05.SimpleLeafClass exEnv colour := ⟨rfl, rfl, rfl, rfl, rfl, by decide⟩
theorem shape_simple : C05.SimpleClass exEnv shape :=
  { found := rfl, kind := rfl, recog := rfl, sav := rfl, noBases := rfl, concrete := rfl, noSub := by decide,
    nodup := by decide, args := by decide }

open C05 in
theorem ex_described : RT exEnv [] 6 (.cls "Shape") exVal exNode := by
  -- the three arguments, described at any fuel from 2 on (they are looked at with fuel 4 and with fuel 5)
  have hname : ∀ f, RT exEnv [] (f + 2) (.cls "Name") (.userStr "Name" "sq") (.scalar tStr "sq" gen) := fun f =>
    ⟨_, _, recognize_leaf_class nameC_leaf (Or.inr rfl) f "sq" gen,
      .userStr "Name" "sq" gen nameC nameC_leaf.found rfl rfl (savorize_leaf nameC_leaf _ _)⟩
  have htags : ∀ f, RT exEnv [] (f + 2) (.seq .list .str)
      (.list (PyVals.ofList [.scalar (.str "12"), .scalar (.str "true")]))
      (.seq tSeq (Nodes.ofList [.scalar tStr "12" gen, .scalar tStr "true" gen]) gen) := fun f =>
    DescAt.toRT (.seq .list gen (.cons (DescAt.toRT (.leaf rfl (.str "12" gen)))
      (.cons (DescAt.toRT (.leaf rfl (.str "true" gen))) .nil)))
  have hcol : ∀ f, RT exEnv [] (f + 2) (.cls "Colour") (.enumMember "Colour" "true") (.scalar tStr "true" gen) :=
    fun f => ⟨_, _, recognize_leaf_class colour_leaf (Or.inl ⟨_, rfl⟩) f "true" gen,
      .enum "Colour" "true" gen colour ["red", "true"] colour_leaf.found rfl (by simp) (savorize_leaf colour_leaf _ _)⟩
  have A : Aligned shape.params (fun prm v n => (RT exEnv [] 5 prm.ty v n ∧ typeMatches exEnv v prm.ty = true) ∧
      Unique (recognizeReq exEnv 4 n (.ty prm.ty))) mainKw mainPs :=
    .cons ⟨⟨"name", .cls "Name", true, true⟩, .head _, rfl, rfl, ⟨hname 3, by unfold typeMatches; rfl⟩,
        rt_unique (hname 2)⟩
      (.cons ⟨⟨"tags", .seq .list .str, true, true⟩, .tail _ (.head _), rfl, rfl,
          ⟨htags 3, by simp [typeMatches.eq_def, typeMatchesAll, PyVals.ofList]⟩, rt_unique (htags 2)⟩
        (.cons ⟨⟨"colour", .cls "Colour", true, false⟩, .tail _ (.tail _ (.head _)), rfl, rfl,
            ⟨hcol 3, by unfold typeMatches; rfl⟩, rt_unique (hcol 2)⟩ .nil))
  have E : All2 (fun e p => ∃ name cs, e.1 = strKey name ∧ p.1 = .scalar tStr name gen ∧
      shape.argNames.contains name = false ∧ name ≠ "self" ∧
      construct exEnv [] 5 (stripTags [] p.2) = .ok ⟨e.2, cs⟩) extraKw extraPs :=
    .cons ⟨"note", [], rfl, rfl, by simp [shape], by simp,
      construct_repScalar exEnv [] 4 (.bool true) (fun _ _ => nofun)⟩ .nil
  have hdist : KeysDistinct (mainPs ++ extraPs) :=
    keysDistinct_of_keys (names := ["name", "tags", "colour", "note"]) rfl (by simp)
  refine ⟨.cls "Shape", [okLeaf], recognize_simple_obj exEnv shape shape_simple 4 (mainPs ++ extraPs) gen hdist
    (fun prm hprm => ?_), ?_⟩
  · obtain ⟨p, hp, hk, _, _, hu⟩ := A.find rfl shape_simple.nodup prm hprm
    exact ⟨p, List.mem_append_left _ hp, hk, hu⟩
  · exact rtcore_obj shape mainKw extraKw mainPs extraPs shape_simple.found rfl shape_simple.nodup
      shape_simple.args (by simp [shape, ClassDef.takesExtra]) rfl rfl rfl (A.imp (fun _ _ _ _ h => h.1)) E hdist
      (by simp [shape, ClassDef.takesExtra]) rfl

/-- so the value loads back from what the representers made of it — obtained from the theorem, not by
running the model -/
theorem C05_example_roundtrip :
    ∃ calls trace processed,
      loadNode exEnv [] 6 exNode (.cls "Shape") = .ok ⟨exVal, calls, trace, processed⟩ :=
  C05_node_roundtrip exEnv exDenv [] 6 6 (.cls "Shape") exVal ⟨exNode, []⟩ ex_represented ex_described

end YatimlModel.C05RT
