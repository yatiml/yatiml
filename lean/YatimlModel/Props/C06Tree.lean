import YatimlModel.Lemmas.Represent
import YatimlModel.Lemmas.PlainData
/-!
# C06 — the dumped tree carries no explicit tags, at any depth

For every value whose classes have no `_yatiml_sweeten` (a hook may write any node it likes), the node
tree the representers build — objects, enum members, string-likes, paths, dates, lists, dicts, nested to
any depth — carries core tags (`tag:yaml.org,2002:…`) only: no `!ClassName`, nothing the serializer would
have to write as an explicit tag for the document to be read back by a plain YAML parser.  (That the
serializer writes no tag for a node whose tag is the one the resolver gives its text is PyYAML's; for
scalars the resolver side is `C06_represented_*_resolve`.)
-/
namespace YatimlModel.C06

theorem allCoreL_ofList {xs : List PyVal} {ns : List Node}
    (t : All2 (fun _ n => AllCore n) xs ns) : AllCoreL (Nodes.ofList ns) := by
  induction t with
  | nil => trivial
  | cons h _ ih => exact ⟨h, ih⟩

theorem allCoreP_ofList {kvs : List (PyVal × PyVal)} {ps : List (Node × Node)}
    (t : All2 (fun _ p => AllCore p.1 ∧ AllCore p.2) kvs ps) : AllCoreP (Pairs.ofList ps) := by
  induction t with
  | nil => trivial
  | cons h _ ih => exact ⟨h.1, h.2, ih⟩

/-- **The dumped tree is tag-free.**  Without sweeten hooks, every node of the represented tree of any
value, at any depth, carries a core tag. -/
theorem C06_represented_tree_core (env : DumpEnv) (hns : C07.NoSweeten env) :
    ∀ (fuel : Nat) (v : PyVal) (o : RepOut), represent env fuel v = .ok o → AllCore o.node := by
  intro fuel
  induction fuel with
  | zero => intro _ _ h; cases h
  | succ fuel ihf =>
    intro v o h
    have ih : ∀ x n, RepTo (represent env fuel) x n → AllCore n := by
      rintro x n ⟨o, ho, rfl⟩
      exact ihf x o ho
    cases v with
    | scalar s => rw [represent_builtin env h]; cases s <;> simp only [representScalar.eq_def, AllCore, core_tags]
    | date _ | bytes _ | path _ => simp only [represent_builtin env h, AllCore, core_tags]
    | enumMember _ _ | userStr _ _ => simp only [represent_class env hns h, AllCore, core_tags]
    | list xs =>
      obtain ⟨ns, hn, ha⟩ := represent_builtin env h
      rw [hn]
      exact ⟨by simp only [core_tags], allCoreL_ofList (ha.imp ih)⟩
    | dict kvs =>
      obtain ⟨ps, hn, ha⟩ := represent_builtin env h
      rw [hn]
      exact ⟨by simp only [core_tags], allCoreP_ofList (ha.imp fun _ _ => And.imp (ih _ _) (ih _ _))⟩
    | obj c kw =>
      obtain ⟨ps, hn, ha⟩ := represent_class env hns h
      rw [hn]
      exact ⟨by simp only [core_tags], allCoreP_ofList (ha.imp fun _ _ => And.imp (ih _ _) (ih _ _))⟩

end YatimlModel.C06
