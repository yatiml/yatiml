import YatimlModel.Model.Transforms
import YatimlModel.Lemmas.AttrOps
/-!
# C15 — structural seasoning transforms: no-ops when not applicable, inverse pairs
-/
namespace YatimlModel.C15
open YatimlModel.NodeOps

theorem attrFor_missing (t : String) (ps : Pairs) (m : Mark) (attr : String)
    (h : hasKey ps.toList attr = false) : attrFor (.map t ps m) attr = .ok none := by
  simp [attrFor, hasAttribute, h]

/-- **Missing attribute.**  All four transforms return the node unchanged. -/
theorem C15_noop_missing (t : String) (ps : Pairs) (m : Mark) (attr ka : String) (va : Option String)
    (strict : Bool) (h : hasKey ps.toList attr = false) :
    seqAttributeToMap (.map t ps m) attr ka va strict = .ok (.map t ps m) ∧
    mapAttributeToSeq (.map t ps m) attr ka va = .ok (.map t ps m) ∧
    indexAttributeToMap (.map t ps m) attr ka va = .ok (.map t ps m) ∧
    mapAttributeToIndex (.map t ps m) attr ka va = .ok (.map t ps m) := by
  simp [seqAttributeToMap, mapAttributeToSeq, indexAttributeToMap, mapAttributeToIndex,
    attrFor_missing t ps m attr h]

theorem attrFor_unique (t : String) (ps : Pairs) (m : Mark) (attr : String) (v : Node)
    (h : valuesOf ps.toList attr = [v]) : attrFor (.map t ps m) attr = .ok (some v) := by
  have hk : hasKey ps.toList attr = true :=
    (Bool.not_eq_false _).mp fun hf => by rw [hasKey_eq_false_iff.mp hf] at h; cases h
  simp [attrFor.eq_def, hasAttribute.eq_def, hk, getAttribute.eq_def, h]

/-- **Wrong kind.**  If the attribute does not hold a sequence (for `seq_attribute_to_map`) or a
mapping (for the other three), the node is returned unchanged. -/
theorem C15_noop_wrong_kind (t : String) (ps : Pairs) (m : Mark) (attr ka : String)
    (va : Option String) (strict : Bool) (v : Node) (h : valuesOf ps.toList attr = [v]) :
    (v.isSeqNode = false → seqAttributeToMap (.map t ps m) attr ka va strict = .ok (.map t ps m)) ∧
    (v.isMapNode = false →
      mapAttributeToSeq (.map t ps m) attr ka va = .ok (.map t ps m) ∧
      indexAttributeToMap (.map t ps m) attr ka va = .ok (.map t ps m) ∧
      mapAttributeToIndex (.map t ps m) attr ka va = .ok (.map t ps m)) := by
  have ha := attrFor_unique t ps m attr v h
  constructor
  · intro hv
    cases v <;> simp [seqAttributeToMap, Node.isSeqNode, ha] at hv ⊢
  · intro hv
    cases v <;> simp [mapAttributeToSeq, indexAttributeToMap, mapAttributeToIndex, Node.isMapNode, ha] at hv ⊢

/-- a mapping of something that is not all mappings: `index_attribute_to_map` does nothing, and so
does `map_attribute_to_seq` without a value attribute -/
theorem C15_noop_not_all_mappings (t : String) (ps : Pairs) (m : Mark) (attr ka : String)
    (va : Option String) (t' : String) (qs : Pairs) (m' : Mark)
    (h : valuesOf ps.toList attr = [.map t' qs m'])
    (hbad : qs.toList.any (fun p => !p.2.isMapNode) = true) :
    indexAttributeToMap (.map t ps m) attr ka va = .ok (.map t ps m) ∧
    mapAttributeToSeq (.map t ps m) attr ka none = .ok (.map t ps m) := by
  have ha := attrFor_unique t ps m attr _ h
  simp [indexAttributeToMap, mapAttributeToSeq, ha, hbad]

/-- a sequence with an item that is not a mapping (the items before it being well-formed):
`seq_attribute_to_map` does nothing -/
theorem checkSeqItems_noop_of_nonmap (ka : String) (strict : Bool) (x : Node) (rest : List Node)
    (seen : List String) (hx : x.isMapNode = false) :
    checkSeqItems ka strict (x :: rest) seen = .noop := by
  cases x <;> first | rfl | cases hx

/-- a well-formed item: a mapping in which the key attribute occurs once, holding a string scalar -/
def ItemKey (ka : String) (item : Node) (kv : String) : Prop :=
  ∃ t ps m m', item = .map t ps m ∧ valuesOf ps.toList ka = [.scalar tStr kv m']

theorem checkSeqItems_step {ka : String} {item : Node} {kv : String} (strict : Bool)
    (rest : List Node) (seen : List String) (h : ItemKey ka item kv) :
    checkSeqItems ka strict (item :: rest) seen =
      if seen.contains kv then (if strict then .err else .noop)
      else checkSeqItems ka strict rest (kv :: seen) := by
  obtain ⟨t, ps, m, m', rfl, hv⟩ := h
  simp only [checkSeqItems, hv, beq_iff_eq, if_true]

/-- **Duplicate keys.**  Two well-formed items with the same key: SeasoningError in strict mode,
nothing happens otherwise. -/
theorem C15_duplicate_keys (ka : String) (strict : Bool) (a b : Node) (kv : String)
    (rest : List Node) (ha : ItemKey ka a kv) (hb : ItemKey ka b kv) :
    checkSeqItems ka strict (a :: b :: rest) [] = if strict then .err else .noop := by
  rw [checkSeqItems_step _ _ _ ha, checkSeqItems_step _ _ _ hb]
  simp

theorem replaceChar_inverse (a b : Char) (s : String) (h : b ∉ s.toList) :
    replaceChar b a (replaceChar a b s) = s := by
  rw [replaceChar, replaceChar, String.toList_ofList, List.map_map, List.map_congr_left (g := id),
    List.map_id, String.ofList_toList]
  intro c hc
  dsimp only [Function.comp_apply]
  by_cases h1 : c = a
  · simp [h1, -BEq.rfl]  -- `BEq.rfl` sends simp looking for `ReflBEq Char`, which is slow to find
  · simp [h1, ne_of_mem_of_not_mem hc h]

/-- **dashes_to_unders ∘ unders_to_dashes** (and the converse) is the identity on a key free of the
target character -/
theorem C15_dash_under_inverse (s : String) :
    ('-' ∉ s.toList → replaceChar '-' '_' (replaceChar '_' '-' s) = s) ∧
    ('_' ∉ s.toList → replaceChar '_' '-' (replaceChar '-' '_' s) = s) :=
  ⟨replaceChar_inverse '_' '-' s, replaceChar_inverse '-' '_' s⟩

theorem rest_has_no_key {ps : List (Node × Node)} {ka : String} {v : Node} (h : valuesOf ps ka = [v]) :
    hasKey (removeFirst ps ka) ka = false := by
  rw [hasKey_eq_false_iff, valuesOf_removeFirst, h]; rfl

/-- **seq → map → seq, long form.**  A well-formed item (a mapping whose key attribute occurs once and
holds a string) that is *not* reduced to the short form comes back as the same mapping with the key
attribute moved to the end: the original data up to the position of the key attribute. -/
theorem C15_seq_map_item_long (ka : String) (va : Option String) (t : String) (ps : Pairs) (m mk : Mark)
    (kv : String) (hkey : valuesOf ps.toList ka = [.scalar tStr kv mk])
    (hlong : ∀ va' k v, va = some va' → removeFirst ps.toList ka = [(k, v)] → k.keyIs va' = false) :
    mapItemToSeq ka va (seqItemToPair ka va (.map t ps m)) =
      some (.map t (Pairs.ofList (removeFirst ps.toList ka ++
        [(Node.scalar tStr ka Mark.generated, Node.scalar tStr kv Mark.generated)])) m) := by
  have hpair : seqItemToPair ka va (.map t ps m) =
      (.scalar tStr kv mk, .map t (Pairs.ofList (removeFirst ps.toList ka)) m) := by
    unfold seqItemToPair
    dsimp only
    rw [hkey, List.headD_cons]
    split
    · next vaS k v hrest => rw [hlong vaS k v rfl hrest]; rfl
    · rfl
  rw [hpair]
  simp only [mapItemToSeq, keyText, Pairs.toList_ofList]
  rw [setFirst_absent _ (rest_has_no_key hkey)]

/-- **seq → map → seq, short form.**  When the value attribute is the sole remaining key and does not
itself hold a mapping, the item is reduced to `key: value` and comes back as the two-attribute mapping. -/
theorem C15_seq_map_item_short (ka va' : String) (t : String) (ps : Pairs) (m mk : Mark) (kv : String)
    (k v : Node) (hkey : valuesOf ps.toList ka = [.scalar tStr kv mk])
    (hrest : removeFirst ps.toList ka = [(k, v)]) (hk : k.keyIs va' = true) (hv : v.isMapNode = false) :
    seqItemToPair ka (some va') (.map t ps m) = (.scalar tStr kv mk, v) ∧
    mapItemToSeq ka (some va') (.scalar tStr kv mk, v) =
      some (.map tMap (Pairs.ofList [(Node.scalar tStr va' Mark.generated, v),
                                     (Node.scalar tStr ka Mark.generated, Node.scalar tStr kv Mark.generated)]) mk) := by
  have hne : (va' == ka) = false := by
    rw [beq_eq_false_iff_ne]
    rintro rfl
    have hno := rest_has_no_key hkey
    rw [hrest, hasKey, List.any_cons, hk] at hno
    cases hno
  constructor
  · simp [seqItemToPair.eq_def, hkey, hrest, hk]
  · cases v with
    | map _ _ _ => cases hv
    | _ => simp [mapItemToSeq.eq_def, keyText.eq_def, setFirst, Node.keyIs.eq_def, hne, Node.mark.eq_def]

/-- **index → map → index.**  For an entry whose inner key attribute is the outer key (an *index*): the
long form comes back with the key attribute (now holding the outer key node) at the end. -/
theorem C15_index_item_long (ka : String) (va : Option String) (k0 : Node) (t : String) (ps : Pairs) (m : Mark)
    (hlong : ∀ va' k v, va = some va' → ps.toList.filter (fun q => !q.1.keyIs ka) = [(k, v)] → k.keyIs va' = false) :
    unindexItem ka va (indexItem ka va (k0, .map t ps m)) =
      (k0, .map t (Pairs.ofList (ps.toList.filter (fun q => !q.1.keyIs ka) ++
        [(Node.scalar tStr ka k0.mark, k0)])) m) := by
  have hpair : indexItem ka va (k0, .map t ps m) =
      (k0, .map t (Pairs.ofList (ps.toList.filter (fun q => !q.1.keyIs ka))) m) := by
    unfold indexItem
    dsimp only
    split
    · next vaS k v hrest => rw [hlong vaS k v rfl hrest]; rfl
    · rfl
  rw [hpair]
  simp [unindexItem, Pairs.toList_ofList]

/-- index → map → index, short form (the value attribute is the sole other key and holds no mapping) -/
theorem C15_index_item_short (ka va' : String) (k0 : Node) (t : String) (ps : Pairs) (m : Mark) (k v : Node)
    (hrest : ps.toList.filter (fun q => !q.1.keyIs ka) = [(k, v)]) (hk : k.keyIs va' = true)
    (hv : v.isMapNode = false) :
    indexItem ka (some va') (k0, .map t ps m) = (k0, v) ∧
    unindexItem ka (some va') (k0, v) =
      (k0, .map tMap (Pairs.ofList [(Node.scalar tStr va' v.mark, v), (Node.scalar tStr ka k0.mark, k0)]) v.mark) := by
  constructor
  · simp [indexItem, hrest, hk]
  · cases v <;> first | rfl | cases hv

/-- **seq → map → seq on the whole attribute value**: if every item comes back as `h item` (by the two
item theorems above: the same mapping with the key attribute moved to the end, or the two-attribute
mapping for a short-form item), the list of pairs `seq_attribute_to_map` builds is turned by
`map_attribute_to_seq` into exactly the list of those items, in order. -/
theorem C15_seq_map_seq_items (ka : String) (va : Option String) (h : Node → Node) (items : List Node)
    (hitems : ∀ item ∈ items, mapItemToSeq ka va (seqItemToPair ka va item) = some (h item)) :
    (items.map (seqItemToPair ka va)).mapM (mapItemToSeq ka va) = some (items.map h) := by
  induction items with
  | nil => rfl
  | cons item rest ih =>
    rw [List.forall_mem_cons] at hitems
    rw [List.map_cons, List.mapM_cons, hitems.1, ih hitems.2]
    rfl

/-- index → map → index on the whole attribute value, entry by entry and in order -/
theorem C15_index_map_index_items (ka : String) (va : Option String) (h : Node × Node → Node × Node)
    (ps : List (Node × Node)) (hps : ∀ p ∈ ps, unindexItem ka va (indexItem ka va p) = h p) :
    (ps.map (indexItem ka va)).map (unindexItem ka va) = ps.map h := by
  rw [List.map_map]
  exact List.map_congr_left hps

end YatimlModel.C15
