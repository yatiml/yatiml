import YatimlModel.Lemmas.RecNoHook
/-!
# C16 — `UnknownNode.require_*` accept exactly the nodes they describe

One `↔` per helper between "returns normally" (`runRecOp … = .ok none`) and the documented condition.
"Never modify the node" is structural: the model's helpers return no node (recognition is pure: the
enum retagging is done by `__process_node`, not by the recogniser); the real code is checked for it on
every run.
-/
namespace YatimlModel.C16
open NodeOps

variable (ext : Ext) (rec : Node → Ty → RecRes)

theorem ok_ite_none {b : Bool} {c : Cited} :
    (.ok (if b then none else some c) : Except Fatal (Option Cited)) = .ok none ↔ b = true := by
  cases b <;> simp

theorem C16_require_mapping (n : Node) :
    runRecOp ext rec n .requireMapping = .ok none ↔ n.isMapNode = true := ok_ite_none

theorem C16_require_sequence (n : Node) :
    runRecOp ext rec n .requireSequence = .ok none ↔ n.isSeqNode = true := ok_ite_none

/-- `require_scalar()` without types: any scalar node -/
theorem C16_require_scalar (n : Node) :
    runRecOp ext rec n (.requireScalar []) = .ok none ↔ n.isScalarNode = true := ok_ite_none

theorem isScalar_true_iff (n : Node) (t : TypArg) (tag : String) (ht : scalarTagOf t = some tag) :
    isScalar n t = .ok true ↔ ∃ v m, n = .scalar tag v m := by
  -- the four ways `isScalar` answers, in its order
  fun_cases isScalar n t
  · cases ht
  · rename_i tg v m _ _ h'
    cases h'.symm.trans ht
    rw [Except.ok.injEq, beq_iff_eq]
    exact ⟨fun h => ⟨v, m, h ▸ rfl⟩, by rintro ⟨_, _, ⟨⟩⟩; rfl⟩
  · rename_i h'
    cases h'.symm.trans ht
  · rename_i hn
    exact iff_of_false nofun (by rintro ⟨v, m, h⟩; exact hn _ v m h)

/-- `require_scalar(t)`: a scalar node whose tag is the tag of `t` -/
theorem C16_require_scalar_typed (n : Node) (t : TypArg) (tag : String) (ht : scalarTagOf t = some tag) :
    runRecOp ext rec n (.requireScalar [t]) = .ok none ↔ ∃ v m, n = .scalar tag v m := by
  rw [← isScalar_true_iff n t tag ht]
  dsimp only [runRecOp, reqScalar, List.foldl_cons, List.foldl_nil]
  rcases isScalar n t with _ | _ | _ <;> simp

/-- `require_attribute(a)`: a mapping with a key `a` -/
theorem C16_require_attribute (n : Node) (a : String) :
    runRecOp ext rec n (.requireAttribute a none) = .ok none ↔
      n.isMapNode = true ∧ valuesOf n.pairs a ≠ [] := by
  cases n with
  | scalar t v m => exact ⟨by rintro ⟨⟩, fun h => nomatch h.1⟩
  | seq t xs m => exact ⟨by rintro ⟨⟩, fun h => nomatch h.1⟩
  | map t ps m =>
    dsimp only [runRecOp, reqAttribute, Node.isMapNode, Node.pairs]
    cases h : valuesOf ps.toList a <;> simp

/-- whatever the call-back answers elsewhere (an error for the value is one way of not being recognisable) -/
theorem require_attribute_typed_iff (n : Node) (a : String) (T : Ty) :
    runRecOp ext rec n (.requireAttribute a (some T)) = .ok none ↔
      n.isMapNode = true ∧ ∃ v rest ts ls, valuesOf n.pairs a = v :: rest ∧ rec v T = .ok (ts, ls) ∧ ts ≠ [] := by
  cases n with
  | scalar t v m => exact ⟨by rintro ⟨⟩, fun h => nomatch h.1⟩
  | seq t xs m => exact ⟨by rintro ⟨⟩, fun h => nomatch h.1⟩
  | map t ps m =>
    dsimp only [runRecOp, reqAttribute, Node.pairs]
    refine Iff.trans ?_ (and_iff_right rfl).symm
    cases valuesOf ps.toList a with
    | nil => exact iff_of_false (by rintro ⟨⟩) (by rintro ⟨_, _, _, _, h, _⟩; cases h)
    | cons v rest =>
      dsimp only
      rcases hr : rec v T with e | ⟨_ | ⟨t, ts⟩, ls⟩
      · exact iff_of_false (by rintro ⟨⟩) (by rintro ⟨_, _, _, _, he, h, _⟩; cases he; rw [hr] at h; cases h)
      · exact iff_of_false (by rintro ⟨⟩) (by rintro ⟨_, _, _, _, he, h, hne⟩; cases he; cases hr.symm.trans h; exact hne rfl)
      · exact iff_of_true rfl ⟨v, rest, _, ls, rfl, hr, List.cons_ne_nil t ts⟩

/-- `require_attribute(a, T)`: a mapping with a key `a` whose (first) value is recognisable as `T` by
the loader's own recogniser (`rec` *is* `recognize`) -/
theorem C16_require_attribute_typed (n : Node) (a : String) (T : Ty)
    (hrec : ∀ x, ∃ ts ls, rec x T = .ok (ts, ls)) :
    runRecOp ext rec n (.requireAttribute a (some T)) = .ok none ↔
      n.isMapNode = true ∧ ∃ v rest ts ls, valuesOf n.pairs a = v :: rest ∧ rec v T = .ok (ts, ls) ∧ ts ≠ [] :=
  require_attribute_typed_iff ext rec n a T

/-! ### `require_attribute_value(_not)` look at every string-keyed occurrence, in order -/

def occurrences (ps : List (Node × Node)) (a : String) : List Node :=
  (ps.filter (fun p => p.1.tag == tStr && p.1.keyIs a)).map (·.2)

/-- the verdict of `require_attribute_value` on the list of comparison results -/
def posOk : List (Option Bool) → Bool → Bool
  | [], found => found
  | some true :: r, _ => posOk r true
  | _ :: _, _ => false

/-- the verdict of `require_attribute_value_not`: a value of another type ends the search positively -/
def negOk : List (Option Bool) → Bool → Bool
  | [], found => found
  | none :: _, _ => true
  | some true :: _, _ => false
  | some false :: r, _ => negOk r true

def cmp (v : Node) (w : PyScalar) : Option Bool :=
  match scalarEquals ext v w with
  | .ok r => r
  | .error _ => none

theorem scalarEquals_cmp (v : Node) (w : PyScalar) : scalarEquals ext v w = .ok (cmp ext v w) := by
  obtain ⟨r, hr⟩ := scalarEquals_ok ext v w
  rw [cmp, hr]

theorem loop_iff (a : String) (w : PyScalar) (neg : Bool) : ∀ (ps : List (Node × Node)) (found : Bool),
    (reqAttrValueLoop ext a w neg ps found = .ok none) ↔
      (if neg then negOk else posOk) ((occurrences ps a).map (fun v => cmp ext v w)) found = true := by
  intro ps
  induction ps with
  | nil => intro found; cases neg <;> exact ok_ite_none
  | cons p ps ih =>
    intro found
    rw [reqAttrValueLoop, occurrences, List.filter_cons]
    cases p.1.tag == tStr && p.1.keyIs a with
    | false => exact ih found
    | true =>
      rw [if_pos rfl, if_pos rfl, scalarEquals_cmp, List.map_cons, List.map_cons]
      have := ih true
      rw [occurrences] at this
      rcases cmp ext p.2 w with _ | _ | _ <;> cases neg <;> first | exact this | simp [posOk, negOk]

theorem reqAttrValue_iff (n : Node) (a : String) (w : PyScalar) (neg : Bool) :
    reqAttrValue ext n a w neg = .ok none ↔ n.isMapNode = true ∧
      (if neg then negOk else posOk) ((occurrences n.pairs a).map (fun v => cmp ext v w)) false = true := by
  cases n with
  | scalar t v m => exact ⟨by rintro ⟨⟩, fun h => nomatch h.1⟩
  | seq t xs m => exact ⟨by rintro ⟨⟩, fun h => nomatch h.1⟩
  | map t ps m => exact (loop_iff ext a w neg ps.toList false).trans (and_iff_right rfl).symm

/-- `require_attribute_value(a, w)`: a mapping in which key `a` occurs and every occurrence is a scalar
of `w`'s type that equals `w` -/
theorem C16_require_attribute_value (n : Node) (a : String) (w : PyScalar) :
    runRecOp ext rec n (.requireAttributeValue a w) = .ok none ↔
      n.isMapNode = true ∧ posOk ((occurrences n.pairs a).map (fun v => cmp ext v w)) false = true :=
  reqAttrValue_iff ext n a w false

/-- `require_attribute_value_not(a, w)`: a mapping in which key `a` occurs and no occurrence equals `w`
(a value of another type counts as different) -/
theorem C16_require_attribute_value_not (n : Node) (a : String) (w : PyScalar) :
    runRecOp ext rec n (.requireAttributeValueNot a w) = .ok none ↔
      n.isMapNode = true ∧ negOk ((occurrences n.pairs a).map (fun v => cmp ext v w)) false = true :=
  reqAttrValue_iff ext n a w true

end YatimlModel.C16
