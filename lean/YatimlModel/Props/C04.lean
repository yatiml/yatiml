import YatimlModel.Gen.LoaderResolvers
import YatimlModel.Lemmas.Reach
/-!
# C04 — a document cannot cause construction of objects the type model does not call for
-/
namespace YatimlModel.C04

def otherTag : RTag → Bool
  | .other _ => true
  | _ => false

/-- Stated through the named constants because the kernel compares two long string literals character by
character. -/
theorem core_of_not_other : ∀ t : RTag, otherTag t = false → hasPrefix corePrefix t.toString = true := by
  have core {t name : String} (h : t = coreTag name) : hasPrefix corePrefix t = true := h ▸ hasPrefix_coreTag name
  intro t h
  cases t with
  | other _ => cases h
  | str => exact core tStr_eq
  | int => exact core tInt_eq
  | float => exact core tFloat_eq
  | bool => exact core tBool_eq
  | null => exact core tNull_eq
  | timestamp => exact core tTimestamp_eq
  | merge => exact core tMerge_eq
  | value => exact core tValue_eq
  | yaml => exact core tYaml_eq

theorem loaderTable_core : TableCore Gen.loaderTable := fun e he =>
  core_of_not_other _ (by
    simpa using List.all_eq_true.mp (by decide : Gen.loaderTable.all (fun e => !otherTag e.tag) = true) e he)

/-- **Any positions.**  Whatever tags a node and everything beneath it carry — `!Registered`,
`!!python/object/apply:…`, anything — when it is processed at a position typed `Any` the tree handed to
construction has core tags only … -/
theorem C04_any_processed_core (env : Env) (tbl : List Entry) (htbl : TableCore tbl) (fuel : Nat)
    (n : Node) (o : ProcOut) (h : processNode env tbl (fuel + 1) n .any = .ok o) : AllCore o.node := by
  -- at `Any` recognition answers `[Any]`, `savStep` and `subStep` return the node, `tagStep` strips it:
  -- `processNode` computes to `.ok ⟨stripTags tbl n, []⟩`
  cases h
  exact stripTags_allCore tbl htbl n

/-- … and such a tree constructs to plain data (dicts, lists, built-in scalars) without a single
user-constructor call, or fails. -/
theorem C04_any_plain (env : Env) (tbl : List Entry) (htbl : TableCore tbl) (fuel fuel' : Nat)
    (n : Node) (o : ProcOut) (h : processNode env tbl (fuel + 1) n .any = .ok o) :
    QuietPlain (construct env tbl fuel' o.node) :=
  construct_quiet env tbl fuel' o.node (C04_any_processed_core env tbl htbl fuel n o h)

/-- the same for whatever `strip_tags` is applied to: untyped parameters (processed as `Any`) and the
values of extra attributes, which the class constructor strips before constructing them -/
theorem C04_stripped_plain (env : Env) (tbl : List Entry) (htbl : TableCore tbl) (fuel : Nat) (n : Node) :
    QuietPlain (construct env tbl fuel (stripTags tbl n)) :=
  construct_quiet env tbl fuel _ (stripTags_allCore tbl htbl n)

/-- a `!!python/…` tag (or any other core-prefixed tag PyYAML's SafeConstructor has no constructor for)
on a scalar is kept by `strip_tags` and makes the load fail with a YAML error: nothing is imported or
called -/
theorem C04_python_tags_fail (env : Env) (tbl : List Entry) (fuel : Nat) (t v : String) (m : Mark)
    (hcore : hasPrefix corePrefix t = true)
    (hunk : t ≠ tStr ∧ t ≠ tInt ∧ t ≠ tFloat ∧ t ≠ tBool ∧ t ≠ tNull ∧ t ≠ tTimestamp ∧
            t ≠ "tag:yaml.org,2002:binary") :
    construct env tbl (fuel + 1) (.scalar t v m) = .error (.yaml "ConstructorError", []) := by
  obtain ⟨h1, h2, h3, h4, h5, h6, h7⟩ := hunk
  rw [construct_scalar_core env tbl fuel v m hcore]
  simp only [constructScalarCore.eq_def, beq_iff_eq, h1, h2, h3, h4, h5, h6, h7, ↓reduceIte]

/-- **Constructors run only for registered classes named by a node's tag.**  Every call in the log is
for a class of the model (the model has no other way to create an object: "nothing named by the
document is ever imported or called" is structural). -/
def CallsRegistered (env : Env) (cs : List Call) : Prop := ∀ c ∈ cs, env.isRegistered c.cls = true

theorem byTag_registered (env : Env) (t : String) (d : ClassDef) (h : env.byTag t = some d) :
    env.isRegistered d.name = true := by
  unfold Env.byTag at h
  split at h
  · rw [find_name env _ d h, isRegistered_eq, h]; rfl
  · cases h

/-- **Only what the type calls for.**  Whatever the document contains — tags of any kind at any node,
unknown keys, arbitrary nesting below `Any`, untyped or `_yatiml_extra` positions — every user constructor
a load runs (at any depth, also when the load fails afterwards) belongs to a class *reachable* from the
declared type: a class the type names, a registered class derived from it, or (recursively) a class
reachable from the parameter types of such a class (`Reach`).  Hypotheses: the resolver table has core tags
only (`loaderTable_core`), `EnvWF` (checked on the real classes of every generated model), the names
`__init__` accepts are its parameters, and dict key types are `str` or a class. -/
theorem C04_calls_within_reach (env : Env) (tbl : List Entry) (htbl : TableCore tbl) (hwf : EnvWF env)
    (hargs : ArgsAreParams env)
    (hparamsOk : ∀ c d, env.find c = some d → ∀ p ∈ d.params, DictKeysOk p.ty)
    (fuel : Nat) (n : Node) (T : Ty) (hT : DictKeysOk T) :
    ∀ c ∈ allCalls (loadNode env tbl fuel n T), Reach env T c.cls :=
  (loadNode_all (.intro (processNode_tagged env tbl htbl hwf.paramNames fuel n T) fun _ _ => trivial)
    fun p hp => .intro (V := fun _ => True) (construct_calls_reach env tbl htbl hwf hargs hparamsOk fuel p T hp hT)
      (fun _ _ => trivial) fun _ _ _ => trivial).1

/-- below `Any` no constructor runs -/
theorem C04_any_reaches_nothing (env : Env) (e : String) : ¬ Reach env .any e := by
  intro h; cases h

end YatimlModel.C04
