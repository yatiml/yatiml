import YatimlModel.Lemmas.RoundTrip
import YatimlModel.Lemmas.Represent
import YatimlModel.Lemmas.IntText
/-!
# C05 for plain data, closed: what the representers write for a value loads back as that value

`Lemmas/RoundTrip` proves (`RT_load`) that `load` returns `v` for every node that *describes* `v` (`RT`); the
description contains the precondition of C05 — recognition is unambiguous at every node.  For the
fragment of plain data — strings (whatever they look like), integers, booleans, `None`, lists, and
dicts with string keys, nested to any depth, under any of the container spellings — the description
is *derived* here from the model of the representers, so the round trip holds without any such
precondition, for every class model (the classes play no role) and every resolver table.

The text layer (quoting, so that a string that looks like a number is re-read as a string) is the
subject of `C05_quoted_strings_stay_strings`.
-/
namespace YatimlModel.C05

/-- plain-data values of a plain-data type; dict keys are strings, pairwise different (as a Python
dict's keys are) -/
inductive HasTy : Ty → PyVal → Prop
  | str (s : String) : HasTy .str (.scalar (.str s))
  | int (i : Int) : HasTy .int (.scalar (.int i))
  | bool (b : Bool) : HasTy .bool (.scalar (.bool b))
  | null : HasTy .null (.scalar .none)
  | seq (k : SeqKind) (item : Ty) (xs : PyVals) : (∀ x ∈ xs.toList, HasTy item x) → HasTy (.seq k item) (.list xs)
  | map (k : MapKind) (V : Ty) (kvs : PyKVs) :
      (∀ e ∈ kvs.toList, ∃ s, e.1 = .scalar (.str s)) → (∀ e ∈ kvs.toList, HasTy V e.2) → KeysOk kvs.toList →
      HasTy (.map k .str V) (.dict kvs)

def Unique (r : RecRes) : Prop := ∃ R l, r = .ok ([R], l)

theorem recListItems_unique (rec : Node → Ty → RecRes) (T item : Ty) :
    ∀ (ns : List Node), (∀ n ∈ ns, Unique (rec n item)) → recListItems rec T item none ns = recOk T := by
  intro ns h
  rw [recListItems_eq]
  exact recElems_unique T (List.forall_mem_map.mpr h)

theorem recDictPairs_unique (rec : Node → Ty → RecRes) (T K V : Ty) :
    ∀ (ps : List (Node × Node)), (∀ p ∈ ps, Unique (rec p.1 K) ∧ Unique (rec p.2 V)) →
      recDictPairs rec T K V none ps = recOk T := by
  intro ps h
  rw [recDictPairs_eq]
  exact recElems_unique T (forall_mapCalls h)

theorem rt_unique {env : Env} {tbl : List Entry} {f : Nat} {T : Ty} {v : PyVal} {n : Node}
    (h : RT env tbl f T v n) : Unique (recognize env f n T) := by
  cases f with
  | zero => cases h
  | succ f =>
    obtain ⟨R, l, hr, _⟩ := h
    exact ⟨R, l, hr⟩

def DescAt (env : Env) (tbl : List Entry) (f : Nat) (T R : Ty) (v : PyVal) (n : Node) : Prop :=
  ∃ l, recognize env f n T = .ok ([R], l) ∧ ∃ f', f = f' + 1 ∧ RTcore env tbl f' (RT env tbl f') R v n

/-- recognition settles on one type `R` (the declared type itself, or - behind an `Optional` / `Union` -
the member concerned), and the node has the shape of a value of `R` -/
def Desc (env : Env) (tbl : List Entry) (f : Nat) (T : Ty) (v : PyVal) (n : Node) : Prop :=
  ∃ R, DescAt env tbl f T R v n

theorem DescAt.toRT {env : Env} {tbl : List Entry} {f : Nat} {T R : Ty} {v : PyVal} {n : Node}
    (h : DescAt env tbl f T R v n) : RT env tbl f T v n := by
  obtain ⟨l, hr, f', rfl, hc⟩ := h
  exact ⟨R, l, hr, hc⟩

theorem DescAt.leaf {env : Env} {tbl : List Entry} {f : Nat} {T : Ty} {v : PyVal} {t s : String} {m : Mark}
    (ht : leafTag T = some t) (hc : RTcore env tbl f (RT env tbl f) T v (.scalar t s m)) :
    DescAt env tbl (f + 1) T T v (.scalar t s m) := by
  refine ⟨[okLeaf], ?_, f, rfl, hc⟩
  rw [recognize, recognizeReq_leaf env f _ ht, recScalar, if_pos (beq_iff_eq.mpr rfl)]
  rfl

theorem DescAt.seq {env : Env} {tbl : List Entry} {f : Nat} (k : SeqKind) {item : Ty} {xs : PyVals} {ns : List Node}
    (m : Mark) (h : All2 (RT env tbl f item) xs.toList ns) :
    DescAt env tbl (f + 1) (.seq k item) (.seq k item) (.list xs) (.seq tSeq (Nodes.ofList ns) m) := by
  refine ⟨[okLeaf], ?_, f, rfl, RTcore.seq k item xs (Nodes.ofList ns) m (by simpa using h)⟩
  rw [recognize, recognizeReq_seq]
  simp only [recList, Nodes.toList_ofList]
  exact recListItems_unique _ _ _ ns (fun n hn => by
    obtain ⟨x, _, hr⟩ := h.mem_right n hn
    exact rt_unique hr)

theorem DescAt.map {env : Env} {tbl : List Entry} {f : Nat} (k : MapKind) {K V : Ty} {kvs : PyKVs}
    {ps : List (Node × Node)} (m : Mark)
    (h : All2 (fun e p => RT env tbl f K e.1 p.1 ∧ RT env tbl f V e.2 p.2) kvs.toList ps)
    (hk : KeysOk kvs.toList) (hK : keyTypeOk env K = true) :
    DescAt env tbl (f + 1) (.map k K V) (.map k K V) (.dict kvs) (.map tMap (Pairs.ofList ps) m) := by
  refine ⟨[okLeaf], ?_, f, rfl, RTcore.map k K V kvs (Pairs.ofList ps) m (by simpa using h) hk hK⟩
  rw [recognize, recognizeReq_map]
  simp only [recDict.eq_def, hK, Bool.not_true, Bool.false_eq_true, ↓reduceIte, Pairs.toList_ofList]
  exact recDictPairs_unique _ _ _ _ ps (fun p hp => by
    obtain ⟨e, _, hr1, hr2⟩ := h.mem_right p hp
    exact ⟨rt_unique hr1, rt_unique hr2⟩)

theorem forall_mem_pair {α : Type} {P : α → Prop} {a b : α} (ha : P a) (hb : P b) : ∀ x ∈ [a, b], P x :=
  List.forall_mem_cons.mpr ⟨ha, List.forall_mem_singleton.mpr hb⟩

theorem mem_of_map_eq {α β γ : Type} {f : α → γ} {g : β → γ} {as : List α} {bs : List β} (h : as.map f = bs.map g)
    {a : α} (ha : a ∈ as) : ∃ b ∈ bs, g b = f a :=
  List.mem_map.mp (h ▸ List.mem_map_of_mem (f := f) ha)

theorem constructBool_repr (b : Bool) : constructBool (if b then "true" else "false") = some b := by
  cases b <;> decide +kernel

/-- **The representers' node describes the value**, for plain data of any depth. -/
theorem plain_described (env : Env) (denv : DumpEnv) (tbl : List Entry) :
    ∀ (f : Nat) (T : Ty) (v : PyVal) (o : RepOut), represent denv f v = .ok o → HasTy T v →
      RT env tbl f T v o.node := by
  intro f
  induction f with
  | zero => exact fun _ _ _ h => nomatch h
  | succ f IH =>
    intro T v o h ht
    have hb := represent_builtin denv h
    cases ht with
    | str s => exact hb ▸ DescAt.toRT (.leaf rfl (.str s _))
    | int i => exact hb ▸ DescAt.toRT (.leaf rfl (.int i _ _ (constructInt_int i)))
    | bool b => exact hb ▸ DescAt.toRT (.leaf rfl (.bool b _ _ (constructBool_repr b)))
    | null => exact hb ▸ DescAt.toRT (.leaf rfl (.null _ _))
    | seq k item xs hx =>
      obtain ⟨ns, hn, ha⟩ := hb
      refine hn ▸ DescAt.toRT (.seq k gen (ha.imp_mem ?_))
      rintro x hxm n ⟨o, ho, hn⟩
      exact hn ▸ IH item x o ho (hx x hxm)
    | map k V kvs hes hev hk =>
      obtain ⟨ps, hn, ha⟩ := hb
      refine hn ▸ DescAt.toRT (.map k gen (ha.imp_mem ?_) hk rfl)
      rintro e hem p ⟨⟨ko, hko, hkn⟩, ⟨vo, hvo, hvn⟩⟩
      obtain ⟨s, hs⟩ := hes e hem
      rw [hs] at hko ⊢
      exact ⟨hkn ▸ IH .str _ ko hko (HasTy.str s),
        hvn ▸ IH V e.2 vo hvo (hev e hem)⟩

/-- **Plain data round trip (node level), closed form.**  For every class model, resolver table, plain
type `T` (strings, integers, booleans, `None`, lists and string-keyed dicts under any spelling, nested
to any depth) and value of that type: the node tree the representers build loads back as exactly that
value — strings that look like numbers, booleans, nulls or dates included, list and mapping order kept. -/
theorem C05_plain_data_roundtrip (env : Env) (denv : DumpEnv) (tbl : List Entry) (f : Nat) (T : Ty)
    (v : PyVal) (o : RepOut) (hrep : represent denv f v = .ok o) (hty : HasTy T v) :
    ∃ calls trace processed, loadNode env tbl f o.node T = .ok ⟨v, calls, trace, processed⟩ :=
  RT_load env tbl f T v o.node (plain_described env denv tbl f T v o hrep hty)

end YatimlModel.C05

namespace YatimlModel.C05
-- non-vacuity: a list of string-keyed dicts whose strings look like a number, a boolean and a null
example : HasTy (.seq .sequence (.map .mutableMapping .str (.seq .list .str)))
    (.list (PyVals.ofList [.dict (PyKVs.ofList [(.scalar (.str "1e5"), .list (PyVals.ofList [.scalar (.str "true"), .scalar (.str "~")]))])])) :=
  .seq _ _ _ (List.forall_mem_singleton.mpr (.map _ _ _ (List.forall_mem_singleton.mpr ⟨_, rfl⟩)
    (List.forall_mem_singleton.mpr (.seq _ _ _ (forall_mem_pair (.str _) (.str _))))
    ⟨List.forall_mem_singleton.mpr rfl, List.pairwise_singleton _ _⟩))
end YatimlModel.C05
