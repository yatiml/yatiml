import YatimlModel.Lemmas.ResolverPrune
import YatimlModel.Gen.LoaderResolvers
import YatimlModel.Gen.PyyamlResolvers
import YatimlModel.Gen.Tags
import YatimlModel.Spec.Yaml12
/-!
# C09 — plain scalars are typed by YAML 1.2 rules for booleans and floats

All statements are about `Gen.loaderTable`, the implicit-resolver table of a live
yatiml `Loader` instance, regenerated from `/repo` on every run.  They are
decided for strings of every length by the reflective checks of `Lemmas/RegexDecide` and
`Lemmas/ResolverPrune`, evaluated by the kernel (`decide +kernel`).
-/
namespace YatimlModel.C09
open YatimlModel.Gen YatimlModel.Spec Re

/-- **C09 (bool).**  For every string `s` (of any length): the loader's table resolves `s`
to `bool` exactly when `s` is one of true/True/TRUE/false/False/FALSE (optionally followed by the one
line feed Python's `$` tolerates; plain scalars never end in one). -/
theorem C09_bool_iff (s : List Nat) :
    (resolve loaderTable s == RTag.bool) = rmatch (cat specBool optNL) s := by
  -- both languages are finite: each side is evaluated on the words of the other
  rw [Bool.eq_iff_iff]
  constructor
  · intro h
    obtain ⟨e, he, ht, hm⟩ := resolveIs_true_ex (by decide) h
    simpa using covers_sound e.re [cat specBool optNL] ((by decide +kernel : ∀ e ∈ loaderTable,
      (e.tag == RTag.bool) = true → covers e.re [cat specBool optNL] = true) e he ht) s (Bool.and_eq_true_iff.mp hm).2
  · exact fun h => beq_iff_eq.mpr (resolvesTo_sound (by decide) (by decide +kernel) s h)

theorem floatProb_ok : resolvesIff loaderTable .float (cat specFloat optNL) = true := by decide +kernel

/-- **C09 (float).**  For every string `s`: the table resolves `s` to `float` exactly when `s` is a
YAML 1.2 core-schema float that is not an integer. -/
theorem C09_float_iff (s : List Nat) :
    (resolve loaderTable s == RTag.float) = rmatch (cat specFloat optNL) s :=
  resolvesIff_sound (by decide) floatProb_ok s

/-! ### strings without a line feed: the `$` quirk disappears -/

def NoLF (s : List Nat) : Prop := s.all (fun c => c != 10 && decide (c ≤ 1114111)) = true

theorem NoLF.not_mem {s : List Nat} (h : NoLF s) : 10 ∉ s :=
  fun h10 => by simpa using List.all_eq_true.mp h 10 h10

theorem C09_bool_iff_plain (s : List Nat) (h : NoLF s) :
    (resolve loaderTable s == RTag.bool) = rmatch specBool s := by
  rw [C09_bool_iff]; exact rmatch_cat_opt h.not_mem

theorem C09_float_iff_plain (s : List Nat) (h : NoLF s) :
    (resolve loaderTable s == RTag.float) = rmatch specFloat s := by
  rw [C09_float_iff]; exact rmatch_cat_opt h.not_mem

/-- **C09 in terms of languages.**  For every plain scalar `s` (no line feed): the loader resolves `s`
to bool / float exactly when `s` is in the *language* of the YAML 1.2 core-schema expression
(`Lang`, the usual denotational semantics of regular expressions; `rmatch_iff_lang` shows the
derivative matcher decides it). -/
theorem C09_bool_iff_lang (s : List Nat) (h : NoLF s) :
    resolve loaderTable s = RTag.bool ↔ Lang specBool s := by
  rw [← rmatch_iff_lang, ← C09_bool_iff_plain s h]
  simp

theorem C09_float_iff_lang (s : List Nat) (h : NoLF s) :
    resolve loaderTable s = RTag.float ↔ Lang specFloat s := by
  rw [← rmatch_iff_lang, ← C09_float_iff_plain s h]
  simp

/-! ### what resolves also constructs -/

/-- case-insensitive literal for an ASCII-lower-case key (`bool_values[value.lower()]`) -/
def ciChar (c : Nat) : Re :=
  if Nat.ble 97 c && Nat.ble c 122 then set [(c - 32, c - 32), (c, c)] else set [(c, c)]
def ciLit (cs : List Nat) : Re := cs.foldr (fun c r => mkCat (ciChar c) r) eps
def boolKeysCI : Re := alts (boolKeyCodes.map ciLit)

/-- PyYAML's float constructor: drop `_`, lower-case, strip the sign, special-case
`.inf`/`.nan`, sexagesimal if a `:` is present, else `float(value)`.  A YAML 1.2
float has neither `_` nor `:`, so apart from the `.inf`/`.nan` spellings the
argument of `float()` is the lower-cased string itself. -/
def specFloatSpecial : Re :=
  cat sign (cat (ch '.') (alts [lit "inf", lit "Inf", lit "INF", lit "nan", lit "NaN", lit "NAN"]))

theorem floatCons_ok : covers specFloat [specFloatSpecial, pyFloatArg] = true := by decide +kernel

/-- Whatever resolves to `bool` is a key of `SafeConstructor.bool_values` after
lower-casing, so `construct_yaml_bool` cannot raise `KeyError`. -/
theorem C09_bool_constructs (s : List Nat) (hs : NoLF s)
    (h : (resolve loaderTable s == RTag.bool) = true) : rmatch boolKeysCI s = true := by
  rw [C09_bool_iff_plain s hs] at h
  simpa using covers_sound specBool [boolKeysCI] (by decide +kernel) s h

/-- Whatever resolves to `float` is either a `.inf`/`.nan` spelling (handled by
PyYAML before `float()` is called) or a string Python's `float()` accepts. -/
theorem C09_float_constructs (s : List Nat) (hs : NoLF s)
    (h : (resolve loaderTable s == RTag.float) = true) :
    rmatch specFloatSpecial s = true ∨ rmatch pyFloatArg s = true := by
  rw [C09_float_iff_plain s hs] at h
  simpa using covers_sound _ _ floatCons_ok s h

/-! ### YAML 1.1 spellings and look-alikes are neither (instances, evaluated by the kernel) -/

-- "yes" "no" "on" "off" "y" "n" "1_000.5" "1:30.5" "1.2.3" "trueish" "1.5x" "tRUE" "1e" ".e5"
def notBoolNorFloat : List (List Nat) :=
  [[121,101,115], [110,111], [111,110], [111,102,102], [121], [110],
   [49,95,48,48,48,46,53], [49,58,51,48,46,53], [49,46,50,46,51],
   [116,114,117,101,105,115,104], [49,46,53,120], [116,82,85,69], [49,101], [46,101,53]]

theorem C09_yaml11_not :
    notBoolNorFloat.all (fun s =>
      !(resolve loaderTable s == RTag.bool) && !(resolve loaderTable s == RTag.float)) = true := by
  decide +kernel

-- "true" "FALSE" -> bool ; "1.5" ".5" "1." "1e5" "-.inf" ".NaN" "+1.5E-3" -> float
theorem C09_positive_instances :
    ([[116,114,117,101], [70,65,76,83,69]].all (fun s => resolve loaderTable s == RTag.bool)
     && [[49,46,53], [46,53], [49,46], [49,101,53], [45,46,105,110,102], [46,78,97,78],
         [43,49,46,53,69,45,51]].all (fun s => resolve loaderTable s == RTag.float)) = true := by
  decide +kernel

/-! ### integer, null, timestamp, merge, value typing is PyYAML's -/

def notBoolFloat (e : Entry) : Bool := !(e.tag == RTag.bool) && !(e.tag == RTag.float)
def entryBeq (a b : Entry) : Bool := a.key == b.key && a.tag == b.tag && a.re == b.re
def tableBeq : List Entry → List Entry → Bool
  | [], [] => true
  | a :: as, b :: bs => entryBeq a b && tableBeq as bs
  | _, _ => false

/-- every entry of the loader's table with a tag other than bool/float is an
entry of PyYAML's own table, in the same order, and vice versa -/
theorem C09_other_tags_unchanged :
    tableBeq (loaderTable.filter notBoolFloat) (pyyamlTable.filter notBoolFloat) = true := by
  decide +kernel

end YatimlModel.C09
