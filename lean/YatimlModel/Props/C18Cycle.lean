import YatimlModel.Spec.AliasShape
/-!
# C18 — exactly the self-referential documents are rejected as cycles

`selfRef opened d` is a purely syntactic reading of "the document contains an alias to a node that
encloses it": it walks the document, collects the anchors of the enclosing collections and asks whether
some alias names one of them.  It does not look at the anchors that are already closed, nor at the
expanded nodes.  A cycle error is raised only for a self-referential document (no false "recursive alias"
alarm for mere sharing, at any depth), and a self-referential document never expands to a tree, so it never
loads.  For well-scoped documents (every alias refers to an anchor seen earlier, which is what PyYAML's
composer guarantees) the cycle error is raised *iff* the document is self-referential.
-/
namespace YatimlModel.C18

/-! `expand…` as computations in the error monad.  The chaining rules below (`Agrees.bind`, `Agrees.map`,
`Outcome.bind`) are stated over `>>=`: a rule stated over a `match` does not apply to the `match` in `expand…`,
whose matcher is specialised to its closed types. -/

theorem expandDoc_seq (opened : List (String × Mark)) (env : Anchors) (a : Option String) (t : String)
    (xs : Docs) (m : Mark) :
    expandDoc opened env (.seq a t xs m) = expandDocs (openAnchor a m opened) env xs >>= fun p =>
      pure (.seq t p.1 m, noteAnchor a (.seq t p.1 m) p.2) := by
  rw [expandDoc]
  rcases expandDocs _ env xs with _ | _ <;> rfl

theorem expandDoc_map (opened : List (String × Mark)) (env : Anchors) (a : Option String) (t : String)
    (ps : DocPairs) (m : Mark) :
    expandDoc opened env (.map a t ps m) = expandPairs (openAnchor a m opened) env ps >>= fun p =>
      pure (.map t p.1 m, noteAnchor a (.map t p.1 m) p.2) := by
  rw [expandDoc]
  rcases expandPairs _ env ps with _ | _ <;> rfl

theorem expandDocs_cons (opened : List (String × Mark)) (env : Anchors) (x : Doc) (xs : Docs) :
    expandDocs opened env (.cons x xs) =
      expandDoc opened env x >>= fun p => expandDocs opened p.2 xs >>= fun q => pure (.cons p.1 q.1, q.2) := by
  rw [expandDocs]
  rcases expandDoc opened env x with _ | ⟨y, env1⟩
  · rfl
  · dsimp only [bind, Except.bind]
    rcases expandDocs opened env1 xs with _ | ⟨ys, env2⟩ <;> rfl

theorem expandPairs_cons (opened : List (String × Mark)) (env : Anchors) (k v : Doc) (r : DocPairs) :
    expandPairs opened env (.cons k v r) =
      expandDoc opened env k >>= fun p => expandDoc opened p.2 v >>= fun q =>
        expandPairs opened q.2 r >>= fun s => pure (.cons p.1 q.1 s.1, s.2) := by
  rw [expandPairs]
  rcases expandDoc opened env k with _ | ⟨k', env1⟩
  · rfl
  · dsimp only [bind, Except.bind]
    rcases expandDoc opened env1 v with _ | ⟨v', env2⟩
    · rfl
    · dsimp only
      rcases expandPairs opened env2 r with _ | ⟨r', env3⟩ <;> rfl

/-- an undefined alias met first may hide either outcome -/
def Agrees (b : Bool) {α : Type} : Except ExpandErr α → Prop
  | .ok _ => b = false
  | .error (.cycle _) => b = true
  | .error .undefined => True

theorem Agrees.bind {α β : Type} {b c : Bool} {r : Except ExpandErr α} {k : α → Except ExpandErr β}
    (hr : Agrees b r) (hk : ∀ x, Agrees c (k x)) : Agrees (b || c) (r >>= k) := by
  rcases r with (_ | _) | x
  · exact (Bool.or_eq_true_iff ..).mpr (Or.inl hr)
  · trivial
  · rw [show b = false from hr]; exact hk x

theorem Agrees.map {α β : Type} {b : Bool} {r : Except ExpandErr α} (f : α → β) (hr : Agrees b r) :
    Agrees b (r >>= fun x => pure (f x)) := by
  rcases r with (_ | _) | x <;> exact hr

theorem Agrees.error {α : Type} {r : Except ExpandErr α} (h : Agrees true r) : ∃ e, r = .error e := by
  cases r with
  | error e => exact ⟨e, rfl⟩
  | ok x => cases h

theorem Agrees.of_cycle {α : Type} {b : Bool} {r : Except ExpandErr α} {am : Mark} (h : Agrees b r)
    (hr : r = .error (.cycle am)) : b = true := by
  rwa [hr] at h

mutual
theorem expandDoc_agrees (opened : List (String × Mark)) (env : Anchors) :
    ∀ d : Doc, Agrees (selfRef opened d) (expandDoc opened env d) := by
  intro d
  cases d with
  | scalar a t v m => rfl
  | seq a t xs m =>
    rw [expandDoc_seq]
    exact (expandDocs_agrees _ env xs).map _
  | map a t ps m =>
    rw [expandDoc_map]
    exact (expandPairs_agrees _ env ps).map _
  | alias name m =>
    rw [expandDoc, selfRef]
    cases opened.lookup name with
    | some am => rfl
    | none => cases env.lookup name <;> constructor
-- stated, because the search for the structural argument tries every list parameter of the three theorems first
termination_by structural d => d
theorem expandDocs_agrees (opened : List (String × Mark)) (env : Anchors) :
    ∀ xs : Docs, Agrees (selfRefs opened xs) (expandDocs opened env xs) := by
  intro xs
  cases xs with
  | nil => rfl
  | cons x xs =>
    rw [expandDocs_cons]
    exact (expandDoc_agrees opened env x).bind fun p => (expandDocs_agrees opened p.2 xs).map _
theorem expandPairs_agrees (opened : List (String × Mark)) (env : Anchors) :
    ∀ ps : DocPairs, Agrees (selfRefPairs opened ps) (expandPairs opened env ps) := by
  intro ps
  cases ps with
  | nil => rfl
  | cons k v r =>
    rw [expandPairs_cons, selfRefPairs, Bool.or_assoc]
    exact (expandDoc_agrees opened env k).bind fun p => (expandDoc_agrees opened p.2 v).bind fun q =>
      (expandPairs_agrees opened q.2 r).map _
end

theorem cycle_only_if_selfRef (opened : List (String × Mark)) (env : Anchors) (am : Mark) :
    ∀ d : Doc, expandDoc opened env d = .error (.cycle am) → selfRef opened d = true :=
  fun d => (expandDoc_agrees opened env d).of_cycle
theorem cycle_only_if_selfRefs (opened : List (String × Mark)) (env : Anchors) (am : Mark) :
    ∀ xs : Docs, expandDocs opened env xs = .error (.cycle am) → selfRefs opened xs = true :=
  fun xs => (expandDocs_agrees opened env xs).of_cycle
theorem cycle_only_if_selfRefPairs (opened : List (String × Mark)) (env : Anchors) (am : Mark) :
    ∀ ps : DocPairs, expandPairs opened env ps = .error (.cycle am) → selfRefPairs opened ps = true :=
  fun ps => (expandPairs_agrees opened env ps).of_cycle

theorem selfRef_never_expands (opened : List (String × Mark)) (env : Anchors) :
    ∀ d : Doc, selfRef opened d = true → ∃ e, expandDoc opened env d = .error e :=
  fun d h => (h ▸ expandDoc_agrees opened env d).error
theorem selfRefs_never_expand (opened : List (String × Mark)) (env : Anchors) :
    ∀ xs : Docs, selfRefs opened xs = true → ∃ e, expandDocs opened env xs = .error e :=
  fun xs h => (h ▸ expandDocs_agrees opened env xs).error
theorem selfRefPairs_never_expand (opened : List (String × Mark)) (env : Anchors) :
    ∀ ps : DocPairs, selfRefPairs opened ps = true → ∃ e, expandPairs opened env ps = .error e :=
  fun ps h => (h ▸ expandPairs_agrees opened env ps).error

/-- **No false cycle alarm.**  At document level: the loader's "recursive alias" RecognitionError is
produced only for a self-referential document. -/
theorem C18_cycle_only_for_selfRef (d : Doc) (m : Mark) (h : expandDoc [] [] d = .error (.cycle m)) :
    selfRef [] d = true := cycle_only_if_selfRef [] [] m d h

/-- **No cyclic document loads**: a self-referential document is never handed to recognition or
construction. -/
theorem C18_selfRef_never_loads (env : Env) (tbl : List Entry) (fuel : Nat) (d : Doc) (T : Ty)
    (h : selfRef [] d = true) :
    (∃ m, loadDoc env tbl fuel d T = .error ⟨.recognition [⟨[m], []⟩], []⟩) ∨
      loadDoc env tbl fuel d T = .error ⟨.yaml "ComposerError", []⟩ := by
  obtain ⟨e, he⟩ := selfRef_never_expands [] [] d h
  cases e with
  | cycle m => exact Or.inl ⟨m, by simp [loadDoc, he]⟩
  | undefined => exact Or.inr (by simp [loadDoc, he])

/-- mere sharing is not self-reference: `[&x {k: 1}, *x]` -/
example : selfRef [] (.seq none tSeq
      (.cons (.map (some "x") tMap (.cons (.scalar none tStr "k" ⟨0, 5⟩) (.scalar none tInt "1" ⟨0, 8⟩) .nil) ⟨0, 1⟩)
      (.cons (.alias "x" ⟨0, 12⟩) .nil)) ⟨0, 0⟩) = false := rfl

/-- `&a {k: [*a]}` is self-referential two levels down -/
example : selfRef [] (.map (some "a") tMap
      (.cons (.scalar none tStr "k" ⟨0, 4⟩)
        (.seq none tSeq (.cons (.alias "a" ⟨0, 8⟩) .nil) ⟨0, 7⟩) .nil) ⟨0, 0⟩) = true := rfl

/-! PyYAML's composer only produces documents in which every alias names an anchor seen earlier in the
stream (closed, `defd`) or the anchor of an enclosing collection (`opened`); it raises ComposerError
otherwise.  `scopedDoc` is that condition, threading the set of closed anchor names. -/

def Covers (env : Anchors) (defd : List String) : Prop := ∀ x ∈ defd, (env.lookup x).isSome = true

theorem covers_note {a : Option String} {n : Node} {env : Anchors} {defd : List String}
    (h : Covers env defd) : Covers (noteAnchor a n env) (noteName a defd) := by
  cases a with
  | none => exact h
  | some name =>
    intro x hx
    rw [noteAnchor, List.lookup_cons]
    split
    · rfl
    · next hne => exact h x ((List.mem_cons.mp hx).resolve_left (of_decide_eq_false hne))

def Outcome (defd' : List String) {α : Type} (r : Except ExpandErr (α × Anchors)) : Prop :=
  (∃ am, r = .error (.cycle am)) ∨ (∃ n env', r = .ok (n, env') ∧ Covers env' defd')

theorem Outcome.pure {α : Type} {defd : List String} (x : α) {env : Anchors} (h : Covers env defd) :
    Outcome defd (pure (x, env)) := Or.inr ⟨x, env, rfl, h⟩

theorem Outcome.bind {α β : Type} {d1 d2 : List String} {r : Except ExpandErr (α × Anchors)}
    {k : α × Anchors → Except ExpandErr (β × Anchors)} (hr : Outcome d1 r)
    (hk : ∀ p, Covers p.2 d1 → Outcome d2 (k p)) : Outcome d2 (r >>= k) := by
  rcases hr with ⟨am, rfl⟩ | ⟨n, env', rfl, hc⟩
  · exact Or.inl ⟨am, rfl⟩
  · exact hk _ hc

mutual
theorem expand_scoped (opened : List (String × Mark)) (env : Anchors) (defd defd' : List String)
    (hc : Covers env defd) :
    ∀ d : Doc, scopedDoc opened defd d = some defd' → Outcome defd' (expandDoc opened env d) := by
  intro d h
  cases d with
  | scalar a t v m =>
    cases h
    exact .pure _ (covers_note hc)
  | seq a t xs m =>
    rw [scopedDoc] at h
    split at h <;> cases h
    rw [expandDoc_seq]
    exact (expand_scopeds _ env defd _ hc xs ‹_›).bind fun p hp => .pure _ (covers_note hp)
  | map a t ps m =>
    rw [scopedDoc] at h
    split at h <;> cases h
    rw [expandDoc_map]
    exact (expand_scopedPairs _ env defd _ hc ps ‹_›).bind fun p hp => .pure _ (covers_note hp)
  | alias name m =>
    rw [expandDoc]
    cases ho : opened.lookup name with
    | some am => exact Or.inl ⟨am, rfl⟩
    | none =>
      rw [scopedDoc, ho] at h
      obtain ⟨hs, ⟨⟩⟩ := Option.ite_none_right_eq_some.mp h
      obtain ⟨n, hn⟩ := Option.isSome_iff_exists.mp (hc name (List.contains_iff_mem.mp hs))
      rw [hn]
      exact .pure n hc
termination_by structural d => d
theorem expand_scopeds (opened : List (String × Mark)) (env : Anchors) (defd defd' : List String)
    (hc : Covers env defd) :
    ∀ xs : Docs, scopedDocs opened defd xs = some defd' → Outcome defd' (expandDocs opened env xs) := by
  intro xs h
  cases xs with
  | nil =>
    cases h
    exact .pure _ hc
  | cons x xs =>
    rw [scopedDocs] at h
    split at h
    · rw [expandDocs_cons]
      exact (expand_scoped opened env defd _ hc x ‹_›).bind fun p hp =>
        (expand_scopeds opened p.2 _ defd' hp xs h).bind fun q hq => .pure _ hq
    · cases h
theorem expand_scopedPairs (opened : List (String × Mark)) (env : Anchors) (defd defd' : List String)
    (hc : Covers env defd) :
    ∀ ps : DocPairs, scopedPairs opened defd ps = some defd' → Outcome defd' (expandPairs opened env ps) := by
  intro ps h
  cases ps with
  | nil =>
    cases h
    exact .pure _ hc
  | cons k v r =>
    rw [scopedPairs] at h
    split at h
    · split at h
      · rw [expandPairs_cons]
        exact (expand_scoped opened env defd _ hc k ‹_›).bind fun p hp =>
          (expand_scoped opened p.2 _ _ hp v ‹_›).bind fun q hq =>
            (expand_scopedPairs opened q.2 _ defd' hq r h).bind fun s hs => .pure _ hs
      · cases h
    · cases h
end

/-- **For composer output, the cycle error is raised iff the document is self-referential**, and every
other well-scoped document expands to a tree (which `C18_transparent` then loads as the written-out
document). -/
theorem C18_cycle_iff_selfRef (d : Doc) (defd' : List String) (hs : scopedDoc [] [] d = some defd') :
    (selfRef [] d = true ↔ ∃ m, expandDoc [] [] d = .error (.cycle m)) ∧
    (selfRef [] d = false ↔ ∃ n env', expandDoc [] [] d = .ok (n, env')) := by
  have ha := expandDoc_agrees [] [] d
  rcases expand_scoped [] [] [] defd' (List.forall_mem_nil _) d hs with ⟨am, h⟩ | ⟨n, env', h, _⟩
  all_goals
    rw [h] at ha ⊢
    simp [show selfRef [] d = _ from ha]

/-- the hypothesis is satisfiable by a document with sharing: `[&x {k: 1}, *x]` -/
example : (scopedDoc [] [] (.seq none tSeq
      (.cons (.map (some "x") tMap (.cons (.scalar none tStr "k" ⟨0, 5⟩) (.scalar none tInt "1" ⟨0, 8⟩) .nil) ⟨0, 1⟩)
      (.cons (.alias "x" ⟨0, 12⟩) .nil)) ⟨0, 0⟩)).isSome = true := rfl

/-- and by the cyclic `&a [*a]` -/
example : (scopedDoc [] [] (.seq (some "a") tSeq (.cons (.alias "a" ⟨0, 4⟩) .nil) ⟨0, 0⟩)).isSome = true := rfl

end YatimlModel.C18
