import YatimlModel.Props.C07
import YatimlModel.Lemmas.JsonParse
/-!
# C07, character level — what `emit_json` writes is an RFC 8259 text for the tree

`Props/C07` shows that the emitter machine writes the token stream of the canonical renderer.  Here
the claim "strict RFC 8259 JSON whose content equals the projection" is taken down to characters:
a reference parser written from the RFC's grammar (`Spec/JsonParse`, sharing nothing with the
emitter) reads the *text* the machine writes — for every tree, indent setting, `ensure_ascii` mode
and line break — and returns exactly the JSON value of the tree: the same strings (code point by
code point, through every escape and surrogate pair), the same numbers, `true` / `false` / `null`,
arrays and objects in the same order.

What is assumed of CPython is stated as hypotheses and compared on every run by the harness:
`DumpsIs` (`json.dumps(str)` writes what `Model/JsonString` writes) and, per scalar, `WfScalar`
(`str.lower` of a represented bool is `true` / `false`; a verbatim scalar is a number text —
for the texts `str(int)` and `repr(float)` produce this is `C07_number_texts_wf`).
-/
namespace YatimlModel.C07
open YatimlModel.Json YatimlModel.JsonParse

/-- **A string token denotes its string.**  For every sequence of Unicode scalar values and both
`ensure_ascii` settings, reading the token `json.dumps` writes gives back exactly that sequence. -/
theorem C07_string_token_denotes (a : Bool) (s : List Nat) (hs : ∀ c ∈ s, IsScalarValue c) :
    parseJson (JsonString.dumps a s) = some (JV.str s) := by
  have h := parse_string_token a s [] (JsonString.dumps a s).length hs
  simp only [List.append_nil] at h
  simp [parseJson, h, skipWs]

/-- **The rendered text parses to the tree's value.** -/
theorem C07_rendered_text_parses (cfg : Cfg) (a : Bool) (lb : String)
    (hd : DumpsIs cfg.fns a) (hk : JsonParse.WfCfg cfg) (hlb : AllWs (codes lb))
    (t : JT) (hw : WfT cfg.fns t) :
    parseJson (codes (textOf lb (renderDoc cfg t))) = some (toJV cfg.fns t) := by
  rw [codes_textOf, renderDoc, codesOf_append]
  have hE := allWs_endl cfg lb hlb 0
  have hlen := lenT cfg a hd lb t 0 hw
  have hsk : skipWs (codesOf lb (endl cfg 0)) = [] := by simpa [skipWs] using skipWs_append_ws hE []
  have hp := (parse_all cfg a lb hd hk hlb ((codesOf lb (rT cfg 0 t) ++ codesOf lb (endl cfg 0)).length + 1)).1
    t 0 _ hw (by simp only [List.length_append]; omega) (List.append_nil _ ▸ StopsNum.ws_append hE (x := []) rfl)
  simp only [parseJson, hp, hsk, if_true]

/-- **What the emitter machine writes is a JSON text for the tree.**  Feeding `emit_json` the events
of a whole document and parsing the characters it wrote (line break `lb`, any indent, either
`ensure_ascii` mode) with the RFC 8259 reference parser yields the JSON value of the tree. -/
theorem C07_emitted_text_is_json (cfg : Cfg) (a : Bool) (lb : String)
    (hd : DumpsIs cfg.fns a) (hk : JsonParse.WfCfg cfg) (hlb : AllWs (codes lb))
    (t : JT) (hw : WfT cfg.fns t) :
    ∃ out, run cfg init (evDoc t) = some (init, out) ∧
      parseJson (codes (textOf lb out)) = some (toJV cfg.fns t) :=
  ⟨renderDoc cfg t, C07_machine_refines_renderer cfg t,
    C07_rendered_text_parses cfg a lb hd hk hlb t hw⟩

mutual
theorem toJV_lower {f g : TextFns} (h : f.lower = g.lower) : ∀ t, toJV f t = toJV g t
  | .scalar k v => by cases k <;> simp only [toJV, scalarJV, h]
  | .arr xs => by simp only [toJV, toJVs_lower h xs]
  | .obj kvs => by simp only [toJV, toJKVs_lower h kvs]
theorem toJVs_lower {f g : TextFns} (h : f.lower = g.lower) : ∀ xs, toJVs f xs = toJVs g xs
  | .nil => rfl
  | .cons x xs => by simp only [toJVs, toJV_lower h x, toJVs_lower h xs]
theorem toJKVs_lower {f g : TextFns} (h : f.lower = g.lower) : ∀ kvs, toJKVs f kvs = toJKVs g kvs
  | .nil => rfl
  | .cons k v rest => by simp only [toJKVs, toJV_lower h v, toJKVs_lower h rest]
end

/-- **Same data under every formatting option**, at the level of parsed values: two configurations
that differ in indent, separator and line break (and even in the `ensure_ascii` mode, as long as
`str.lower` is the same function) write texts that denote the same JSON value. -/
theorem C07_same_value_all_options (c1 c2 : Cfg) (a1 a2 : Bool) (lb1 lb2 : String)
    (hd1 : DumpsIs c1.fns a1) (hd2 : DumpsIs c2.fns a2)
    (hk1 : JsonParse.WfCfg c1) (hk2 : JsonParse.WfCfg c2)
    (hlb1 : AllWs (codes lb1)) (hlb2 : AllWs (codes lb2)) (hl : c1.fns.lower = c2.fns.lower)
    (t : JT) (hw1 : WfT c1.fns t) (hw2 : WfT c2.fns t) :
    parseJson (codes (textOf lb1 (renderDoc c1 t))) = parseJson (codes (textOf lb2 (renderDoc c2 t))) := by
  rw [C07_rendered_text_parses c1 a1 lb1 hd1 hk1 hlb1 t hw1,
    C07_rendered_text_parses c2 a2 lb2 hd2 hk2 hlb2 t hw2]
  rw [toJV_lower hl t]

/-- **`ensure_ascii=False` leaves non-ASCII characters unescaped**: every code point from U+007F up is
written as itself -/
theorem C07_non_ascii_unescaped (c : Nat) (h : 127 ≤ c) : JsonString.escUni c = [c] := by
  have hs : JsonString.shortEsc c = none := by
    cases hs : JsonString.shortEsc c with
    | none => rfl
    | some e =>
      have := (by decide : ∀ p ∈ JsonString.shortTable, p.1 < 127) (c, e) (JsonString.shortEsc_mem hs)
      omega
  unfold JsonString.escUni
  rw [hs]
  simp only
  rw [if_neg (by omega)]

theorem C07_unicode_mode_keeps_non_ascii (s : List Nat) (c : Nat) (hc : c ∈ s) (h : 127 ≤ c) :
    c ∈ JsonString.dumps false s := by
  unfold JsonString.dumps
  simp only [Bool.false_eq_true, if_false, List.mem_append, List.mem_flatMap, List.mem_cons,
    List.not_mem_nil, or_false]
  exact Or.inl (Or.inr ⟨c, hc, by rw [C07_non_ascii_unescaped c h]; simp⟩)

section numbers
open YatimlModel.Re

/-- the RFC grammar used by the reference parser is the one `C07_numbers_are_json` is about -/
theorem numberRe_eq : JsonParse.numberRe = jsonNumber := rfl

/-- every RFC 8259 number is a number text: the first two clauses of `NumText` follow from the third -/
theorem numText_of_match (s : List Nat) (h : rmatch jsonNumber s = true) : NumText s := by
  refine ⟨?_, fun c hc => ?_, by rw [numberRe_eq]; exact h⟩
  · rintro rfl
    cases h
  · exact CSet.forall_mem (cs := jsonNumber.chars) (by decide) (lang_chars ((rmatch_iff_lang _ _).mp h) c hc)

theorem number_texts (s : List Nat) (h : rmatch (alt pyIntStr reprFloat) s = true) : NumText s :=
  numText_of_match s (C07_numbers_are_json s h)

/-- `str(int)` and `repr(float).lower()` of a finite float are number texts: non-empty, made of
number characters, in the RFC's `number` language — so `WfScalar` holds of them -/
theorem C07_number_texts_wf (f : TextFns) (v : String)
    (h : rmatch (alt pyIntStr reprFloat) (codes v) = true) : WfScalar f SK.other v :=
  number_texts (codes v) h
end numbers

/-! ### non-vacuity: a concrete configuration and tree meeting every hypothesis -/

def asciiFns : TextFns :=
  { dumps := fun s => String.ofList ((JsonString.dumps true (codes s)).map Char.ofNat),
    lower := fun s => s }
def cfgA : Cfg := { indented := true, best := 2, kvsep := ": ", fns := asciiFns }
def sampleA : JT :=
  .obj (.cons (.scalar .str "k\"é") (.arr (.cons (.scalar .other "-1.5e-05") (.cons (.scalar .null "")
        (.cons (.scalar .bool "true") .nil))))
       (.cons (.scalar .str "b") (.obj .nil) .nil))

example : JsonParse.WfCfg cfgA := rfl
example : AllWs (codes "\n") := by unfold AllWs; decide
example : WfT cfgA.fns sampleA := by
  simp only [sampleA, WfT, WfL, WfK, WfScalar, cfgA, asciiFns, and_true, true_and]
  refine ⟨⟨_, rfl⟩, ?_, ⟨_, rfl⟩⟩
  exact ⟨C07_number_texts_wf asciiFns "-1.5e-05" (by decide +kernel), Or.inl trivial⟩
example : parseJson (codes (textOf "\n" (renderDoc cfgA sampleA))) = some (toJV cfgA.fns sampleA) := by
  decide +kernel

end YatimlModel.C07
