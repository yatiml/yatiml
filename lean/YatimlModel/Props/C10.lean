import YatimlModel.Model.Process
import YatimlModel.Model.Represent
import YatimlModel.Lemmas.ProcAll
/-!
# C10 — seasoning and recognition hooks run once, own class only, bases first
-/
namespace YatimlModel.C10

/-- the savorize hooks the documented rule runs for class `d`: those of its registered direct bases
(recursively, in `__bases__` order), then its own if it defines one in its body -/
def chain (env : Env) : Nat → ClassDef → List String
  | 0, _ => []
  | fuel + 1, d =>
    ((d.bases.filterMap (fun b => env.find b)).flatMap (chain env fuel))
      ++ (match d.savorize with | some _ => [d.name] | none => [])

-- `step` is described by two equations: a `match` spelt here does not unify with the one in the model's fold
theorem foldl_trace {ε β : Type} {f : Node → β → Except ε (Node × List String)} {g : β → List String}
    {step : Except ε (Node × List String) → β → Except ε (Node × List String)}
    (herr : ∀ e b, step (.error e) b = .error e)
    (hok : ∀ n tr b, step (.ok (n, tr)) b = (f n b).map fun r => (r.1, tr ++ r.2))
    (ih : ∀ n b n' tr, f n b = .ok (n', tr) → tr = g b)
    (bs : List β) (acc : Except ε (Node × List String)) (n' : Node) (tr : List String)
    (h : bs.foldl step acc = .ok (n', tr)) : ∃ n0 t0, acc = .ok (n0, t0) ∧ tr = t0 ++ bs.flatMap g := by
  induction bs generalizing acc with
  | nil => exact ⟨_, _, h, by simp⟩
  | cons b bs hbs =>
    obtain ⟨n1, t1, h1, rfl⟩ := hbs _ h
    rcases acc with e | ⟨n0, t0⟩
    · rw [herr] at h1; cases h1
    · rw [hok] at h1
      cases hs : f n0 b with
      | error e => rw [hs] at h1; cases h1
      | ok r =>
        rw [hs] at h1
        cases h1
        exact ⟨n0, t0, rfl, by rw [ih _ _ _ _ hs]; simp⟩

/-- **Each once, bases first, own class only.**  When savorizing a node as class `d` succeeds, the hooks
that ran are exactly the chain of `d` — every `_yatiml_savorize` defined in the body of a registered base
(bases first) and of `d` itself, each once, and no other class's — whatever the hooks do to the node. -/
theorem C10_savorize_chain (env : Env) : ∀ (fuel : Nat) (n : Node) (d : ClassDef) (n' : Node)
    (tr : List String), savorize env fuel n d = .ok (n', tr) → tr = chain env fuel d := by
  intro fuel
  induction fuel with
  | zero => exact fun _ _ _ _ h => nomatch h
  | succ fuel ih =>
    intro n d n' tr h
    unfold savorize at h
    dsimp only at h
    split at h
    · cases h
    · rename_i n1 t1 hb
      obtain ⟨_, _, h0, rfl⟩ := foldl_trace (f := savorize env fuel) (fun _ _ => rfl)
        (fun n tr b => by dsimp only; cases savorize env fuel n b <;> rfl) ih _ _ n1 t1 hb
      cases h0
      split at h
      · rename_i hs
        cases h
        simp [chain, hs]
      · rename_i prog hs
        split at h
        · cases h
        · cases h
          simp [chain, hs]

/-- a class that defines a savorize function runs it last (after its bases') -/
theorem C10_savorize_own_last (env : Env) (fuel : Nat) (d : ClassDef) (prog : List SavOp)
    (h : d.savorize = some prog) : (chain env (fuel + 1) d).getLast? = some d.name := by
  simp [chain, h]

/-- no definition in the class body, no call for that class -/
theorem C10_savorize_no_hook_no_call (env : Env) (fuel : Nat) (d : ClassDef) (h : d.savorize = none)
    (hb : d.bases.filterMap (fun b => env.find b) = []) : chain env (fuel + 1) d = [] := by
  simp [chain, h, hb]

/-- **A SeasoningError (or any other exception) raised while savorizing surfaces as a
RecognitionError** citing the node. -/
theorem C10_seasoning_error_is_recognition_error (env : Env) (fuel : Nat) (n : Node) (R : Ty)
    (e : LoadErr) (h : savStep env fuel n R = .error e) : ∃ m, e = .recognition [⟨[m], []⟩] :=
  savStep_err h

/-- **After recognition, before the attribute type check.**  Savorizing is applied to the type that
recognition singled out; the attribute values are processed afterwards on the savorized node, and the
constructor's checks come later still (they are part of construction). -/
theorem C10_savorize_after_recognition (env : Env) (tbl : List Entry) (fuel : Nat) (n : Node) (T : Ty)
    (o : ProcOut) (h : processNode env tbl (fuel + 1) n T = .ok o) :
    ∃ R ls n2 tr n3 tr', recognize env (fuel + 1) n T = .ok ([R], ls) ∧
      savStep env (fuel + 1) n R = .ok (n2, tr) ∧
      subStep env (processNode env tbl fuel) R n2 = .ok (n3, tr') ∧
      o.trace = tr ++ tr' := by
  obtain ⟨R, ls, n2, tr, n3, tr', hr, hs, hsub, htag⟩ := processNode_ok h
  exact ⟨R, ls, n2, tr, n3, tr', hr, hs, hsub, (tagStep_ok htag).1⟩

/-- **`_yatiml_recognize` is consulted only for the class that defines it**: recognising one class
depends on nothing of the class model but that class's own definition (and the external scalar
functions). -/
theorem C10_recognize_own_dict_only (env env' : Env) (hext : env.ext = env'.ext)
    (rec : Node → Ty → RecRes) (n : Node) (d : ClassDef) :
    recUserClass env rec n d = recUserClass env' rec n d := by
  unfold recUserClass
  rw [hext]

/-- the sweeten hooks the documented rule runs for class `d` when dumping -/
def sweetChain (env : DumpEnv) : Nat → DumpClass → List String
  | 0, _ => []
  | fuel + 1, d =>
    ((d.bases.filterMap (fun b => env.find b)).flatMap (sweetChain env fuel))
      ++ (match d.sweetenOwn with | some _ => [d.name] | none => [])

/-- **Sweeten: each once, bases first, own class only.**  When sweetening the node of an object of
class `d` succeeds, the hooks that ran are exactly the chain of `d`: every `_yatiml_sweeten` defined in
the body of a base that has a representer (bases first) and of `d` itself, each once — whatever the hooks
do to the node.  (For plain classes; the enum / string-like representers are the known finding F14.) -/
theorem C10_sweeten_chain (env : DumpEnv) : ∀ (fuel : Nat) (n : Node) (d : DumpClass) (n' : Node)
    (tr : List String), sweeten env fuel n d = .ok (n', tr) → tr = sweetChain env fuel d := by
  intro fuel
  induction fuel with
  | zero => exact fun _ _ _ _ h => nomatch h
  | succ fuel ih =>
    intro n d n' tr h
    unfold sweeten at h
    dsimp only at h
    split at h
    · cases h
    · rename_i n1 t1 hb
      obtain ⟨_, _, h0, rfl⟩ := foldl_trace (f := sweeten env fuel) (fun _ _ => rfl)
        (fun n tr b => by dsimp only; cases sweeten env fuel n b <;> rfl) ih _ _ n1 t1 hb
      cases h0
      split at h
      · rename_i hs
        cases h
        simp [sweetChain, hs]
      · rename_i prog hs
        split at h
        · cases h
        · cases h
          simp [sweetChain, hs]

end YatimlModel.C10
