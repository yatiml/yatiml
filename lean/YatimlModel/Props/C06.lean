import YatimlModel.Lemmas.Represent
import YatimlModel.Lemmas.ResolverPrune
import YatimlModel.Gen.DumperResolvers
/-!
# C06 — dumps are faithful, tag-free and ordered, and leave the object untouched

Node-level part: what the representers build (collection tags are the defaults, scalars carry core tags,
attributes come in declaration order, enum members by name), and the reflective resolver lemmas that
make the serializer mark every represented non-string scalar *implicit* for the Dumper's own resolver —
so the emitter writes it without a tag.  Purity and determinism are definitional for the model (a pure
function); the real code is checked for them on every run.
-/
namespace YatimlModel.C06
open YatimlModel.Gen NodeOps Re

/-- lists and dicts are represented with the default sequence / mapping tags (no `!!omap`, no
`!!python/…`), whatever they contain -/
theorem C06_collection_tags_default (env : DumpEnv) (fuel : Nat) (o : RepOut) :
    (∀ xs, represent env (fuel + 1) (.list xs) = .ok o → o.node.tag = tSeq) ∧
    (∀ kvs, represent env (fuel + 1) (.dict kvs) = .ok o → o.node.tag = tMap) := by
  constructor
  · intro xs h
    obtain ⟨ns, hn, _⟩ := represent_builtin env h
    rw [hn]
    rfl
  · intro kvs h
    obtain ⟨ps, hn, _⟩ := represent_builtin env h
    rw [hn]
    rfl

/-- built-in scalars get the core tag of their own kind -/
theorem C06_scalar_tags_core (s : PyScalar) :
    (representScalar s).tag = tagOfScalar s := by
  cases s <;> rfl

/-- enum members are represented by name, as a string scalar -/
theorem C06_enum_by_name (env : DumpEnv) (fuel : Nat) (c name : String) (d : DumpClass)
    (hd : env.find c = some d) (hs : d.sweetenMro = none) :
    (represent env (fuel + 1) (.enumMember c name)).toOption.map (·.node) = some (.scalar tStr name gen) := by
  simp [represent, hd, hs, Except.toOption]

theorem repPairs_keys (rep : PyVal → Except DumpErr RepOut)
    (hrep : ∀ k, rep (.scalar (.str k)) = .ok ⟨.scalar tStr k gen, []⟩) :
    ∀ (l : List (String × PyVal)) (ps : List (Node × Node)) (tr : List String),
      repPairs rep (l.map (fun e => (PyVal.scalar (.str e.1), e.2))) = .ok (ps, tr) →
      ps.map (·.1) = l.map (fun e => Node.scalar tStr e.1 gen) := by
  intro l
  induction l with
  | nil => intro ps tr h; cases h; rfl
  | cons e es ih =>
    intro ps tr h
    simp only [List.map_cons, repPairs, hrep] at h
    split at h
    · cases h
    · split at h
      · cases h
      · rename_i vo hv qs tr' hq
        cases h
        rw [List.map_cons, List.map_cons, ih qs tr' hq]

/-- **Attribute order.**  The mapping built for a user object has its keys in the order of the
attribute list: constructor parameters in declaration order, then the extra attributes. -/
theorem C06_attribute_order (env : DumpEnv) (fuel : Nat) (attrs : List (String × PyVal))
    (ps : List (Node × Node)) (tr : List String)
    (h : repPairs (represent env (fuel + 1)) (attrs.map (fun e => (PyVal.scalar (.str e.1), e.2))) = .ok (ps, tr)) :
    ps.map (·.1) = attrs.map (fun e => Node.scalar tStr e.1 gen) :=
  repPairs_keys _ (by intro k; simp [represent, representScalar]) attrs ps tr h

def digit19 : Re := rng '1' '9'
def digit09 : Re := rng '0' '9'
def minus : Re := opt (ch '-')
/-- `str(int)` -/
def pyIntStr : Re := cat minus (alt (ch '0') (cat digit19 (star digit09)))
/-- `SafeRepresenter.represent_float` of a finite float -/
def reprFloatFinite : Re :=
  cat minus (cat (alt (ch '0') (cat digit19 (star digit09))) (cat (ch '.') (cat (plus digit09)
    (opt (cat (ch 'e') (cat (set [('+'.toNat, '+'.toNat), ('-'.toNat, '-'.toNat)]) (plus digit09)))))))
def reprFloat : Re := alts [reprFloatFinite, lit ".nan", lit ".inf", lit "-.inf"]
def reprBool : Re := alt (lit "true") (lit "false")
def reprNull : Re := lit "null"

theorem dumperInt_ok : resolvesTo dumperTable .int pyIntStr = true := by decide +kernel
theorem dumperFloat_ok : resolvesTo dumperTable .float reprFloat = true := by decide +kernel

/-- every `str(int)` resolves to `int` with the Dumper's resolver: represented ints are written plain,
without a tag -/
theorem C06_represented_ints_resolve (s : List Nat) (h : rmatch pyIntStr s = true) :
    resolve dumperTable s = .int := resolvesTo_sound (by decide) dumperInt_ok s h

/-- every represented float (finite, `.nan`, `.inf`, `-.inf`) resolves to `float` -/
theorem C06_represented_floats_resolve (s : List Nat) (h : rmatch reprFloat s = true) :
    resolve dumperTable s = .float := resolvesTo_sound (by decide) dumperFloat_ok s h

theorem C06_represented_bools_nulls_resolve (s : List Nat) :
    (rmatch reprBool s = true → resolve dumperTable s = .bool) ∧
    (rmatch reprNull s = true → resolve dumperTable s = .null) := by
  -- `true`, `false`, `null` are the only texts: the table is evaluated on them
  exact ⟨resolvesTo_sound (by decide) (by decide +kernel) s, resolvesTo_sound (by decide) (by decide +kernel) s⟩

end YatimlModel.C06
