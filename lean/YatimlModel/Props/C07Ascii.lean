import YatimlModel.Props.C07Parse
/-!
# C07 — the default output is ASCII-only, at character level

With `ensure_ascii=True` (the default) every character of the text `emit_json` writes is an ASCII
character: string tokens by `C07_dumps_ascii`, numbers / `true` / `false` / `null` by their shape,
structural characters, the key separator and the indentation trivially — for every tree, indent and
(ASCII) line break.  The renderer writes nothing but such pieces (`piece_rT`).
-/
namespace YatimlModel.C07
open YatimlModel.Json YatimlModel.JsonParse

def AllAscii (l : List Nat) : Prop := ∀ c ∈ l, c < 128

theorem AllAscii.append {a b : List Nat} (ha : AllAscii a) (hb : AllAscii b) : AllAscii (a ++ b) :=
  List.forall_mem_append.mpr ⟨ha, hb⟩

theorem ascii_scalar (f : TextFns) (hd : DumpsIs f true) (k : SK) (v : String) (hw : WfScalar f k v) :
    AllAscii (codes (scalarText f k v)) := by
  have hstr : AllAscii (codes (f.dumps v)) := by
    intro c hc
    rw [hd v] at hc
    have := List.all_eq_true.mp (JsonString.dumps_ascii (codes v)) c hc
    simp only [JsonString.isAsciiPrintable, Bool.and_eq_true, decide_eq_true_eq] at this
    omega
  cases k with
  | str | timestamp => exact hstr
  | null => exact (by decide : ∀ c ∈ codes "null", c < 128)
  | bool =>
    rcases hw with h | h <;> simp only [scalarText, h]
    · exact (by decide : ∀ c ∈ codes "true", c < 128)
    · exact (by decide : ∀ c ∈ codes "false", c < 128)
  | other =>
    intro c hc
    have := hw.2.1 c hc
    simp only [isNumChar, Bool.or_eq_true, Bool.and_eq_true, decide_eq_true_eq, beq_iff_eq] at this
    omega

theorem ascii_kvsep (cfg : Cfg) (hk : JsonParse.WfCfg cfg) : AllAscii (codes cfg.kvsep) := by
  unfold JsonParse.WfCfg at hk
  rw [hk]
  split <;> (unfold AllAscii; decide)

theorem ascii_piece {cfg : Cfg} (lb : String) (hd : DumpsIs cfg.fns true) (hk : JsonParse.WfCfg cfg)
    (hlb : AllAscii (codes lb)) {ind : Nat} {W : Prop} (hW : W) {c : Chunk} (h : Piece cfg ind W c) :
    AllAscii (chunkCodes lb c) := by
  cases c with
  | punct s =>
    rcases h with h | rfl
    · exact (by decide : ∀ s ∈ ["[", "]", "{", "}", ","], ∀ c ∈ codes s, c < 128) s h
    · exact ascii_kvsep cfg hk
  | nl n =>
    rw [cc_nl]
    refine AllAscii.append hlb fun x hx => ?_
    cases List.eq_of_mem_replicate hx
    decide
  | scal s =>
    obtain ⟨k, v, rfl, hw⟩ := h
    exact ascii_scalar cfg.fns hd k v (hw hW)

theorem ascii_chunks {lb : String} {cs : List Chunk} (h : ∀ c ∈ cs, AllAscii (chunkCodes lb c)) :
    AllAscii (codesOf lb cs) := by
  intro x hx
  obtain ⟨c, hc, hxc⟩ := List.mem_flatMap.mp hx
  exact h c hc x hxc

theorem asciiL (cfg : Cfg) (lb : String) (hd : DumpsIs cfg.fns true) (hk : JsonParse.WfCfg cfg)
    (hlb : AllAscii (codes lb)) : ∀ (xs : JL) (ind : Nat) (first : Bool), WfL cfg.fns xs →
      AllAscii (codesOf lb (rL cfg ind first xs)) :=
  fun xs ind first hw => ascii_chunks fun c hc =>
    ascii_piece lb hd hk hlb hw (piece_rL cfg xs ind first c hc)

theorem asciiK (cfg : Cfg) (lb : String) (hd : DumpsIs cfg.fns true) (hk : JsonParse.WfCfg cfg)
    (hlb : AllAscii (codes lb)) : ∀ (kvs : JKL) (ind : Nat) (first : Bool), WfK cfg.fns kvs →
      AllAscii (codesOf lb (rK cfg ind first kvs)) :=
  fun kvs ind first hw => ascii_chunks fun c hc =>
    ascii_piece lb hd hk hlb hw (piece_rK cfg kvs ind first c hc)

/-- **The default output is ASCII-only.**  With `ensure_ascii=True`, every character `emit_json` writes
for a whole document is an ASCII character — whatever the strings in the tree contain. -/
theorem C07_default_output_is_ascii (cfg : Cfg) (lb : String) (hd : DumpsIs cfg.fns true)
    (hk : JsonParse.WfCfg cfg) (hlb : AllAscii (codes lb)) (t : JT) (hw : WfT cfg.fns t) :
    ∃ out, run cfg init (evDoc t) = some (init, out) ∧ AllAscii (codes (textOf lb out)) := by
  refine ⟨renderDoc cfg t, C07_machine_refines_renderer cfg t, ?_⟩
  rw [codes_textOf]
  exact ascii_chunks fun c hc =>
    ascii_piece lb hd hk hlb hw (piece_renderDoc cfg t c hc)

end YatimlModel.C07
