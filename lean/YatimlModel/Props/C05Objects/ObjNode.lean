import YatimlModel.Props.C05Objects.Typed
import YatimlModel.Props.C05Plain
/-!
The mapping the representers write for an object: its keys are the parameter names (then the names of the extra
attributes), pair by pair next to the keyword arguments (`Aligned`); extra attributes, being plain data, come
back from tag stripping and construction (`construct_plain`); together that is the shape `RTcore.obj` asks
(`rtcore_obj`).
-/
namespace YatimlModel.C05

theorem stripTagsL_ofList (tbl : List Entry) (ns : List Node) :
    stripTagsL tbl (Nodes.ofList ns) = Nodes.ofList (ns.map (stripTags tbl)) := by
  induction ns with
  | nil => rfl
  | cons x xs ih => simp [Nodes.ofList, stripTagsL, ih]

theorem stripTagsP_ofList (tbl : List Entry) (ps : List (Node × Node)) :
    stripTagsP tbl (Pairs.ofList ps) = Pairs.ofList (ps.map (fun p => (stripTags tbl p.1, stripTags tbl p.2))) := by
  induction ps with
  | nil => rfl
  | cons p r ih => simp [Pairs.ofList, stripTagsP, ih]

theorem construct_stripped_scalar (env : Env) (tbl : List Entry) (f : Nat) (t s : String) (m : Mark) (v : PyVal)
    (ht : hasPrefix corePrefix t = true) (hv : constructScalarCore env.ext t s m = .ok v) :
    construct env tbl (f + 1) (stripTags tbl (.scalar t s m)) = .ok ⟨v, []⟩ := by
  rw [show stripTags tbl (.scalar t s m) = .scalar t s m by simp only [stripTags, ht, ↓reduceIte],
    construct_scalar_core env tbl f s m ht, hv]

theorem repTo_scalar {denv : DumpEnv} {g : Nat} {s : PyScalar} {n : Node}
    (h : RepTo (represent denv g) (.scalar s) n) : n = representScalar s := by
  obtain ⟨o, ho, rfl⟩ := h
  cases g with
  | zero => cases ho
  | succ g => exact represent_builtin denv ho

theorem construct_repScalar (env : Env) (tbl : List Entry) (f : Nat) : ∀ (s : PyScalar), (∀ r i, s ≠ .float r i) →
    construct env tbl (f + 1) (stripTags tbl (representScalar s)) = .ok ⟨.scalar s, []⟩ := by
  intro s h
  cases s with
  | str s =>
    exact construct_stripped_scalar env tbl f tStr s gen _ (by simp only [core_tags]) (constructScalarCore_str _ s _)
  | int i =>
    exact construct_stripped_scalar env tbl f tInt _ gen _ (by simp only [core_tags])
      (by rw [constructScalarCore_int, constructInt_int i])
  | bool b =>
    exact construct_stripped_scalar env tbl f tBool _ gen _ (by simp only [core_tags])
      (by rw [constructScalarCore_bool, constructBool_repr b])
  | none =>
    exact construct_stripped_scalar env tbl f tNull _ gen _ (by simp only [core_tags]) (constructScalarCore_null _ _ _)
  | float r i => exact absurd rfl (h r i)

/-- **Plain data survives tag stripping and construction.** -/
theorem construct_plain (K : Nat) (env : Env) (denv : DumpEnv) (tbl : List Entry) :
    ∀ (g : Nat) (v : PyVal) (o : RepOut), represent denv g v = .ok o → PlainAny v →
      ∀ f, need K v ≤ f + 1 → ∃ cs, construct env tbl f (stripTags tbl o.node) = .ok ⟨v, cs⟩ := by
  intro g
  induction g with
  | zero => exact fun _ _ h => nomatch h
  | succ g IH =>
    intro v o h hp f hf
    obtain ⟨f, rfl⟩ := Nat.exists_eq_add_one.mpr (show 0 < f by have := need_pos K v; omega)
    have hb := represent_builtin denv h
    cases hp with
    | list xs hx =>
      obtain ⟨ns, hn, ha⟩ := hb
      simp only [need] at hf
      rw [hn, stripTags, stripTagsL_ofList, ← PyVals.ofList_toList xs]
      -- `exact` on the term itself sends the unifier into `construct`, which is very slow
      have := construct_seq env tbl f xs.toList (ns.map (stripTags tbl)) gen
        (ha.map_right_mem _ (by
          rintro x hxm n ⟨o, ho, hn⟩
          exact hn ▸ IH x o ho (hx x hxm) f (by have := needL_mem K xs x hxm; omega)))
      exact this
    | dict kvs hk hv hko =>
      obtain ⟨ps, hn, ha⟩ := hb
      simp only [need] at hf
      rw [hn, stripTags, stripTagsP_ofList, ← PyKVs.ofList_toList kvs]
      have := construct_map env tbl f kvs.toList (ps.map (fun p => (stripTags tbl p.1, stripTags tbl p.2))) gen
        (ha.map_right_mem (fun p => (stripTags tbl p.1, stripTags tbl p.2)) (by
          rintro e hem p ⟨⟨ko, hko, hkn⟩, ⟨vo, hvo, hvn⟩⟩
          obtain ⟨s, hs⟩ := hk e hem
          have hfe : need K e.2 ≤ f + 1 := by have := needK_mem K kvs e hem; omega
          refine ⟨hkn ▸ IH e.1 ko hko (hs ▸ PlainAny.str s) f
              (hs ▸ Nat.le_trans (need_pos K e.2) hfe), ?_,
            hvn ▸ IH e.2 vo hvo (hv e hem) f hfe⟩
          -- the key node is a `!!str` scalar
          rw [hs] at hko
          rw [repTo_scalar ⟨ko, hko, hkn⟩]
          simp only [representScalar, stripTags, show hasPrefix corePrefix tStr = true by simp only [core_tags],
            ↓reduceIte]
          exact tStr_not_merge)) hko
      exact this
    | _ =>
      exact hb ▸ ⟨[], construct_repScalar env tbl f _ (fun _ _ => nofun)⟩

theorem attributesOf_cons (e : PyVal × PyVal) (l : List (PyVal × PyVal))
    (he : (e.1 == PyVal.scalar (.str "_yatiml_extra")) = false) : attributesOf (e :: l) = e :: attributesOf l := by
  -- `simp [attributesOf, …]` is dear here: it tries, and fails, to discharge the equations of the inner `match`
  unfold attributesOf
  simp only [List.filter_cons, List.filterMap_cons, bne, he, Bool.not_false, Bool.false_eq_true, ↓reduceIte]
  rfl

theorem attributesOf_append (rest l : List (PyVal × PyVal))
    (h : ∀ e ∈ l, (e.1 == PyVal.scalar (.str "_yatiml_extra")) = false) :
    attributesOf (l ++ rest) = l ++ attributesOf rest := by
  induction l with
  | nil => rfl
  | cons e l ih =>
    rw [List.cons_append, attributesOf_cons e _ (h e (.head _)), ih (fun x hx => h x (.tail _ hx)), List.cons_append]

theorem attributesOf_noExtra : ∀ (l : List (PyVal × PyVal)),
    (∀ e ∈ l, (e.1 == PyVal.scalar (.str "_yatiml_extra")) = false) → attributesOf l = l := by
  intro l h
  have := attributesOf_append [] l h
  rwa [List.append_nil, show attributesOf [] = [] from rfl, List.append_nil] at this

theorem attributesOf_with_extra (main extra : List (PyVal × PyVal))
    (h : ∀ e ∈ main, (e.1 == PyVal.scalar (.str "_yatiml_extra")) = false) :
    attributesOf (main ++ [(strKey "_yatiml_extra", .dict (PyKVs.ofList extra))]) = main ++ extra := by
  rw [attributesOf_append _ main h]
  simp [attributesOf, strKey]

theorem keysDistinct_of_keys {ps : List (Node × Node)} {names : List String}
    (hk : ps.map (·.1) = names.map (fun nm => Node.scalar tStr nm gen)) (h : names.Nodup) : KeysDistinct ps := by
  unfold KeysDistinct
  rw [hk]
  refine List.pairwise_map.mpr (h.imp fun hab s hs => ?_)
  have hs : _ = s := beq_iff_eq.mp hs
  exact beq_eq_false_iff_ne.mpr (fun e => hab (hs.trans e.symm))

theorem keysDistinct_of_names (names : List String) (h : names.Nodup) :
    KeysDistinct (names.map (fun nm => ((Node.scalar tStr nm gen), (Node.scalar tStr nm gen)))) :=
  keysDistinct_of_keys (List.map_map ..) h

def nameOfKey (k : PyVal) : String :=
  match k with
  | .scalar (.str s) => s
  | _ => ""

theorem keys_not_extra {params : List Param} {kw : List (PyVal × PyVal)}
    (hkeys : kw.map (·.1) = params.map (fun p => strKey p.name))
    (hargs : ∀ prm ∈ params, prm.name ≠ "_yatiml_extra") :
    ∀ e ∈ kw, (e.1 == PyVal.scalar (.str "_yatiml_extra")) = false := by
  intro e he
  obtain ⟨prm, hprm, hpe⟩ := mem_of_map_eq hkeys he
  rw [← hpe]
  simp [strKey, hargs prm hprm]

/-- the keyword arguments `kw` and the mapping pairs `ps` are those of parameters of the class, pair by pair,
and `Q` holds of each (parameter, value, value node) -/
def Aligned (params : List Param) (Q : Param → PyVal → Node → Prop) (kw : List (PyVal × PyVal))
    (ps : List (Node × Node)) : Prop :=
  All2 (fun e p => ∃ prm ∈ params, e.1 = strKey prm.name ∧ p.1 = .scalar tStr prm.name gen ∧ Q prm e.2 p.2) kw ps

theorem aligned_of_rep {denv : DumpEnv} {g : Nat} {params : List Param} {Q : Param → PyVal → Node → Prop}
    {kw : List (PyVal × PyVal)} {ps : List (Node × Node)}
    (hkeys : kw.map (·.1) = params.map (fun p => strKey p.name))
    (ha : All2 (fun e p => RepTo (represent denv g) e.1 p.1 ∧ RepTo (represent denv g) e.2 p.2) kw ps)
    (hQ : ∀ e ∈ kw, ∀ prm ∈ params, e.1 = strKey prm.name → ∀ n, RepTo (represent denv g) e.2 n → Q prm e.2 n) :
    Aligned params Q kw ps :=
  ha.imp_mem (by
    rintro e hem p ⟨hk, hv⟩
    obtain ⟨prm, hprm, hpe⟩ := mem_of_map_eq hkeys hem
    rw [← hpe] at hk
    exact ⟨prm, hprm, hpe.symm, repTo_scalar hk, hQ e hem prm hprm hpe.symm p.2 hv⟩)

theorem Aligned.imp {params : List Param} {Q Q' : Param → PyVal → Node → Prop} {kw : List (PyVal × PyVal)}
    {ps : List (Node × Node)} (A : Aligned params Q kw ps) (h : ∀ prm ∈ params, ∀ v n, Q prm v n → Q' prm v n) :
    Aligned params Q' kw ps := by
  refine All2.imp ?_ A
  rintro _ _ ⟨prm, hprm, h1, h2, hq⟩
  exact ⟨prm, hprm, h1, h2, h prm hprm _ _ hq⟩

theorem Aligned.keys {params : List Param} {Q : Param → PyVal → Node → Prop} {kw : List (PyVal × PyVal)}
    {ps : List (Node × Node)} (A : Aligned params Q kw ps)
    (hkeys : kw.map (·.1) = params.map (fun p => strKey p.name)) :
    ps.map (·.1) = (params.map (·.name)).map (fun nm => Node.scalar tStr nm gen) := by
  have e1 : (kw.map (·.1)).map (fun k => Node.scalar tStr (nameOfKey k) gen) = ps.map (·.1) := by
    rw [List.map_map]
    refine A.map_eq _ _ ?_
    rintro e p ⟨prm, _, h1, h2, _⟩
    simp only [Function.comp, h1, h2, strKey, nameOfKey]
  rw [← e1, hkeys, List.map_map, List.map_map]
  rfl

theorem Aligned.find {params : List Param} {Q : Param → PyVal → Node → Prop} {kw : List (PyVal × PyVal)}
    {ps : List (Node × Node)} (A : Aligned params Q kw ps)
    (hkeys : kw.map (·.1) = params.map (fun p => strKey p.name)) (hnd : (params.map (·.name)).Nodup)
    (prm : Param) (hprm : prm ∈ params) :
    ∃ p ∈ ps, p.1.keyIs prm.name = true ∧ ∃ v, Q prm v p.2 := by
  obtain ⟨e, he, hek⟩ := mem_of_map_eq hkeys.symm hprm
  obtain ⟨p, hp, prm', hprm', h1, h2, hq⟩ := All2.mem_left A e he
  have hnm : prm'.name = prm.name := by
    rw [h1] at hek; simpa [strKey] using hek
  cases eq_of_name params hnd prm' hprm' prm hprm hnm
  exact ⟨p, hp, by rw [h2, keyIs_scalar, beq_iff_eq], e.2, hq⟩

theorem rtcore_obj {env : Env} {tbl : List Entry} {f : Nat} (d : ClassDef) {kw : PyKVs} {ps : List (Node × Node)}
    (mainKw extraKw : List (PyVal × PyVal)) (ps1 ps2 : List (Node × Node))
    (hfound : env.find d.name = some d) (hkind : d.kind = .plain) (hnd : (d.params.map (·.name)).Nodup)
    (hargs : ∀ prm ∈ d.params, d.argNames.contains prm.name = true ∧ prm.name ≠ "_yatiml_extra" ∧ prm.name ≠ "self")
    (hkw : kw.toList = mainKw ++
      (if d.takesExtra then [(strKey "_yatiml_extra", .dict (PyKVs.ofList extraKw))] else []))
    (hps : ps = ps1 ++ ps2)
    (hkeys : mainKw.map (·.1) = d.params.map (fun p => strKey p.name))
    (hsav : savorize env (f + 1) (.map tMap (Pairs.ofList ps) gen) d = .ok (.map tMap (Pairs.ofList ps) gen, []))
    (A : Aligned d.params (fun prm v n => RT env tbl f prm.ty v n ∧ typeMatches env v prm.ty = true) mainKw ps1)
    (E : All2 (fun e p => ∃ name cs, e.1 = strKey name ∧ p.1 = .scalar tStr name gen ∧
      d.argNames.contains name = false ∧ name ≠ "self" ∧
      construct env tbl f (stripTags tbl p.2) = .ok ⟨e.2, cs⟩) extraKw ps2)
    (hdist : KeysDistinct ps) (hnox : d.takesExtra = false → extraKw = [])
    (hinit : d.initRaises (scalarArgs kw.toList) = false) :
    RTcore env tbl f (RT env tbl f) (.cls d.name) (.obj d.name kw) (.map tMap (Pairs.ofList ps) gen) :=
  RTcore.obj d.name kw (Pairs.ofList ps) gen d mainKw extraKw ps1 ps2 hfound hkind
    { sav := hsav
      psEq := by rw [Pairs.toList_ofList, hps]
      kwEq := hkw
      noExtra := hnox
      main := All2.imp (by
        rintro _ _ ⟨prm, hprm, h1, h2, h3, h4⟩
        exact ⟨prm.name, gen, prm, h1, h2, hprm, rfl, h3, h4⟩) A
      extra := E.imp (by
        rintro _ _ ⟨nm, cs, h1, h2, h3, h4, h5⟩
        exact ⟨nm, gen, cs, h1, h2, h3, h4, h5⟩)
      distinct := by rw [Pairs.toList_ofList]; exact hdist
      required := fun prm hprm _ => mem_of_map_eq hkeys.symm hprm
      paramsNodup := hnd
      argsParams := hargs
      init := hinit }

end YatimlModel.C05
