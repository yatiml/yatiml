import YatimlModel.Props.C05Objects.Typed
import YatimlModel.Props.C05Plain
/-!
Non-vacuity: class models and values that satisfy the predicates — a simple class nested in another, a class
with `_yatiml_extra`, a hierarchy with siblings, `Optional` and `Union` positions.
-/
namespace YatimlModel.C05

theorem args_typed {K : Nat} {env : Env} {params : List Param} {kw : List (PyVal × PyVal)}
    (hnd : (params.map (·.name)).Nodup)
    (h : All2 (fun prm e => e.1 = strKey prm.name ∧ HasTyE K env prm.ty e.2) params kw) :
    ∀ e ∈ kw, ∀ prm ∈ params, e.1 = strKey prm.name → HasTyE K env prm.ty e.2 := by
  intro e he prm hp hk
  obtain ⟨prm', hp', hk', hty⟩ := h.mem_right e he
  have hn : prm'.name = prm.name := by simpa [hk', strKey] using hk
  exact eq_of_name params hnd prm' hp' prm hp hn ▸ hty

def pointD : ClassDef :=
  { name := "Point", bases := [], ancestors := [], kind := .plain, abstract := false,
    params := [⟨"x", .int, true, true⟩, ⟨"label", .str, true, false⟩], argNames := ["x", "label"],
    extraTy := none, recognize := none, savorize := none, initRaises := fun _ => false }

def lineD : ClassDef :=
  { name := "Line", bases := [], ancestors := [], kind := .plain, abstract := false,
    params := [⟨"start", .cls "Point", true, true⟩, ⟨"via", .seq .sequence (.cls "Point"), true, true⟩],
    argNames := ["start", "via"], extraTy := none, recognize := none, savorize := none,
    initRaises := fun _ => false }

def extE : Ext := { yamlFloat := fun _ => none, yamlTimestamp := fun _ => none, yamlBinary := fun _ => none }

def envS : Env := { registered := [pointD, lineD], ext := extE }

theorem pointD_simple : SimpleClass envS pointD :=
  ⟨rfl, rfl, rfl, rfl, rfl, rfl, by decide, by decide, by decide⟩

theorem lineD_simple : SimpleClass envS lineD :=
  ⟨rfl, rfl, rfl, rfl, rfl, rfl, by decide, by decide, by decide⟩

def pointV (x : Int) (l : String) : PyVal :=
  .obj "Point" (PyKVs.ofList [(strKey "x", .scalar (.int x)), (strKey "label", .scalar (.str l))])

theorem pointV_typed (x : Int) (l : String) : HasTyE 0 envS (.cls "Point") (pointV x l) :=
  .obj pointD _ pointD_simple (by simp [pointD, ClassDef.takesExtra]) rfl
    (args_typed pointD_simple.nodup (.cons ⟨rfl, .int _⟩ (.cons ⟨rfl, .str _⟩ .nil))) rfl

def openD : ClassDef :=
  { name := "Open", bases := [], ancestors := [], kind := .plain, abstract := false,
    params := [⟨"a", .int, true, true⟩], argNames := ["a", "_yatiml_extra"],
    extraTy := none, recognize := none, savorize := none, initRaises := fun _ => false }

def envX : Env := { registered := [openD], ext := extE }

theorem openD_simple : SimpleClass envX openD :=
  ⟨rfl, rfl, rfl, rfl, rfl, rfl, by decide, by decide, by decide⟩

example : HasTyE 0 envX (.cls "Open")
    (.obj "Open" (PyKVs.ofList ([(strKey "a", .scalar (.int 1))] ++
      [(strKey "_yatiml_extra", .dict (PyKVs.ofList [(strKey "zz", .scalar (.str "1e5")),
        (strKey "n", .list (PyVals.ofList [.scalar (.int 1), .scalar .none]))]))]))) :=
  .objX openD _ _ openD_simple (by simp [openD, ClassDef.takesExtra]) rfl
    (args_typed openD_simple.nodup (.cons ⟨rfl, .int 1⟩ .nil))
    (forall_mem_pair ⟨"zz", rfl, by simp [openD]⟩ ⟨"n", rfl, by simp [openD]⟩)
    (forall_mem_pair (.str _) (.list _ (forall_mem_pair (.int 1) .null)))
    ⟨forall_mem_pair rfl rfl, List.pairwise_pair.mpr (by simp [keyEq_str])⟩ rfl

-- a hierarchy with siblings: `Circle(Shape)` and `Square(Shape)`; a `Circle` where a `Shape` is declared
def shapeD : ClassDef :=
  { name := "Shape", bases := [], ancestors := [], kind := .plain, abstract := true,
    params := [⟨"name", .str, true, true⟩], argNames := ["name"],
    extraTy := none, recognize := none, savorize := none, initRaises := fun _ => false }

def circleD : ClassDef :=
  { name := "Circle", bases := ["Shape"], ancestors := ["Shape"], kind := .plain, abstract := false,
    params := [⟨"name", .str, true, true⟩, ⟨"radius", .int, true, true⟩], argNames := ["name", "radius"],
    extraTy := none, recognize := none, savorize := none, initRaises := fun _ => false }

def squareD : ClassDef :=
  { name := "Square", bases := ["Shape"], ancestors := ["Shape"], kind := .plain, abstract := false,
    params := [⟨"name", .str, true, true⟩, ⟨"side", .int, true, true⟩], argNames := ["name", "side"],
    extraTy := none, recognize := none, savorize := none, initRaises := fun _ => false }

def envH : Env := { registered := [shapeD, circleD, squareD], ext := extE }

theorem circleD_leaf : HierLeaf envH circleD :=
  ⟨rfl, rfl, rfl, rfl, by decide, by decide, by decide, by decide⟩

-- `Square` (which has no registered subclasses) rejects a mapping with the keys of a `Circle`: `side` is missing
theorem square_rejects : SubtreeRejects envH circleD.params "Square" 1 :=
  .mk "Square" squareD 0 1 rfl rfl rfl
    (Or.inr ⟨[⟨"name", .str, true, true⟩], ⟨"side", .int, true, true⟩, [], rfl, rfl, by decide, by decide,
      List.forall_mem_singleton.mpr (Or.inl ⟨_, List.mem_cons_self, rfl, rfl⟩)⟩)
    (List.forall_mem_nil _) Nat.one_pos

example : HasTyE 1 envH (.cls "Shape")
    (.obj "Circle" (PyKVs.ofList [(strKey "name", .scalar (.str "c1")), (strKey "radius", .scalar (.int 2))])) :=
  .objUp "Shape" circleD _ 1 1 circleD_leaf
    (.step "Shape" "Circle" "Circle" 0 shapeD circleD rfl List.mem_cons_self rfl
      (forall_mem_pair (absurd rfl) (fun _ => square_rejects)) (.here "Circle"))
    (by decide) (.step circleD shapeD 0 rfl rfl (.root shapeD rfl rfl)) (by decide) (Or.inr (by decide)) rfl
    (args_typed circleD_leaf.nodup (.cons ⟨rfl, .str _⟩ (.cons ⟨rfl, .int _⟩ .nil))) rfl

-- `Optional[Shape]` holding `None`: no class below `Shape` takes a scalar
theorem shape_plainHier : PlainHier envH "Shape" 2 :=
  .mk "Shape" shapeD 1 2 rfl rfl rfl
    (forall_mem_pair (.mk "Circle" circleD 0 1 circleD_leaf.found rfl rfl (List.forall_mem_nil _) Nat.one_pos)
      (.mk "Square" squareD 0 1 rfl rfl rfl (List.forall_mem_nil _) Nat.one_pos)) Nat.one_lt_two

example : HasTyE 2 envH (optTy (.cls "Shape")) (.scalar .none) := .optNoneH "Shape" 2 shape_plainHier (by decide)

-- `Union[int, str, Sequence[int], Point]`: members that take different kinds of node; a string spelt `12`
example : HasTyE 0 envS (.union (Tys.ofList [.int, .str, .seq .sequence .int, .cls "Point"])) (.scalar (.str "12")) := by
  refine .union _ .str .str _ (by simp) .str ?_ (.str _)
  intro m' hm' hne
  simp at hm'
  rcases hm' with rfl | rfl | rfl | rfl
  · exact ⟨.int, .int, by decide⟩
  · exact absurd rfl hne
  · exact ⟨.seq, .seq _ _, by decide⟩
  · exact ⟨.map, .cls pointD pointD_simple, by decide⟩

example : HasTyE 0 envS (optTy (.cls "Point")) (.scalar .none) := .optNone _ (.cls pointD pointD_simple)

example : HasTyE 0 envS (optTy (.cls "Point")) (pointV 7 "null") :=
  .optSome _ _ (.cls pointD pointD_simple) (pointV_typed _ _)

example : HasTyE 0 envS (.cls "Line")
    (.obj "Line" (PyKVs.ofList [(strKey "start", pointV 1 "1e5"),
      (strKey "via", .list (PyVals.ofList [pointV 2 "true", pointV (-3) "~"]))])) :=
  .obj lineD _ lineD_simple (by simp [lineD, ClassDef.takesExtra]) rfl
    (args_typed lineD_simple.nodup (.cons ⟨rfl, pointV_typed _ _⟩
      (.cons ⟨rfl, .seq _ _ _ (forall_mem_pair (pointV_typed _ _) (pointV_typed _ _))⟩ .nil))) rfl

end YatimlModel.C05
