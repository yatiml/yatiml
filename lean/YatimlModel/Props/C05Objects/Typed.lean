import YatimlModel.Props.C05Objects.Classes
import YatimlModel.Lemmas.RoundTrip
import YatimlModel.Model.Represent
/-!
The values C05 covers, `HasTyE K env T v`: plain data, members of enums and string-likes, objects of the classes
of `Classes`, `Optional` and `Union` positions; the fuel `need K v` their nodes take to load; and that such a
value passes the constructor's type check.
-/
namespace YatimlModel.C05

/-- untyped plain data: what an extra attribute may hold here -/
inductive PlainAny : PyVal → Prop
  | str (s : String) : PlainAny (.scalar (.str s))
  | int (i : Int) : PlainAny (.scalar (.int i))
  | bool (b : Bool) : PlainAny (.scalar (.bool b))
  | null : PlainAny (.scalar .none)
  | list (xs : PyVals) : (∀ x ∈ xs.toList, PlainAny x) → PlainAny (.list xs)
  | dict (kvs : PyKVs) : (∀ e ∈ kvs.toList, ∃ s, e.1 = .scalar (.str s)) → (∀ e ∈ kvs.toList, PlainAny e.2) →
      KeysOk kvs.toList → PlainAny (.dict kvs)

/-- `Optional[T]`, as `typing` normalises it: `Union[T, None]` -/
def optTy (T : Ty) : Ty := .union (.cons T (.cons .null .nil))

/-- the types `Optional[...]` may wrap here -/
inductive NonNullTy (env : Env) : Ty → Prop
  | str : NonNullTy env .str
  | int : NonNullTy env .int
  | bool : NonNullTy env .bool
  | seq (k : SeqKind) (item : Ty) : NonNullTy env (.seq k item)
  | map (k : MapKind) (V : Ty) : NonNullTy env (.map k .str V)
  | cls (d : ClassDef) : SimpleClass env d → NonNullTy env (.cls d.name)
  | float : NonNullTy env .float
  | path : NonNullTy env .path
  | enumCls (d : ClassDef) (members : List String) : SimpleLeafClass env d → d.kind = .enum members →
      NonNullTy env (.cls d.name)
  | strCls (d : ClassDef) : SimpleLeafClass env d → d.kind = .stringLike → NonNullTy env (.cls d.name)

/-- node kinds, as the recogniser tells them apart -/
inductive NK | str | int | float | bool | null | seq | map
  deriving DecidableEq

/-- the member types a `Union` may have here, with the kind of node each of them accepts; a Union whose
members accept pairwise different kinds is unambiguous -/
inductive MemberTy (env : Env) : Ty → NK → Prop
  | str : MemberTy env .str .str
  | path : MemberTy env .path .str
  | int : MemberTy env .int .int
  | float : MemberTy env .float .float
  | bool : MemberTy env .bool .bool
  | null : MemberTy env .null .null
  | seq (k : SeqKind) (item : Ty) : MemberTy env (.seq k item) .seq
  | map (k : MapKind) (V : Ty) : MemberTy env (.map k .str V) .map
  | cls (d : ClassDef) : SimpleClass env d → MemberTy env (.cls d.name) .map

/-- values of a type: plain data as in `HasTy`, floats, paths, enum members, string-likes, objects of simple
classes carrying one value of the declared type per constructor parameter, in declaration order, that the
constructor accepted (`objUp`: of a leaf class declared as a registered ancestor), `Optional[T]` positions
holding `None` or a value of `T`, and Unions whose members accept pairwise different kinds of node -/
inductive HasTyE (K : Nat) (env : Env) : Ty → PyVal → Prop
  | str (s : String) : HasTyE K env .str (.scalar (.str s))
  | int (i : Int) : HasTyE K env .int (.scalar (.int i))
  | bool (b : Bool) : HasTyE K env .bool (.scalar (.bool b))
  | null : HasTyE K env .null (.scalar .none)
  | seq (k : SeqKind) (item : Ty) (xs : PyVals) : (∀ x ∈ xs.toList, HasTyE K env item x) →
      HasTyE K env (.seq k item) (.list xs)
  | map (k : MapKind) (V : Ty) (kvs : PyKVs) :
      (∀ e ∈ kvs.toList, ∃ s, e.1 = .scalar (.str s)) → (∀ e ∈ kvs.toList, HasTyE K env V e.2) →
      KeysOk kvs.toList → HasTyE K env (.map k .str V) (.dict kvs)
  | obj (d : ClassDef) (kw : PyKVs) : SimpleClass env d → d.takesExtra = false →
      kw.toList.map (·.1) = d.params.map (fun p => strKey p.name) →
      (∀ e ∈ kw.toList, ∀ prm ∈ d.params, e.1 = strKey prm.name → HasTyE K env prm.ty e.2) →
      d.initRaises (scalarArgs kw.toList) = false →
      HasTyE K env (.cls d.name) (.obj d.name kw)
  | objX (d : ClassDef) (mainKw extraKw : List (PyVal × PyVal)) : SimpleClass env d → d.takesExtra = true →
      mainKw.map (·.1) = d.params.map (fun p => strKey p.name) →
      (∀ e ∈ mainKw, ∀ prm ∈ d.params, e.1 = strKey prm.name → HasTyE K env prm.ty e.2) →
      (∀ e ∈ extraKw, ∃ s, e.1 = strKey s ∧ d.argNames.contains s = false ∧ s ≠ "self") →
      (∀ e ∈ extraKw, PlainAny e.2) → KeysOk extraKw →
      d.initRaises (scalarArgs (mainKw ++ [(strKey "_yatiml_extra", .dict (PyKVs.ofList extraKw))])) = false →
      HasTyE K env (.cls d.name)
        (.obj d.name (PyKVs.ofList (mainKw ++ [(strKey "_yatiml_extra", .dict (PyKVs.ofList extraKw))])))
  | objUp (base : String) (d : ClassDef) (kw : PyKVs) (k j : Nat) : HierLeaf env d →
      Chain env d.params K base d.name k → k ≤ K → UpChain env d j → j ≤ K →
      (base = d.name ∨ d.ancestors.contains base = true) →
      kw.toList.map (·.1) = d.params.map (fun p => strKey p.name) →
      (∀ e ∈ kw.toList, ∀ prm ∈ d.params, e.1 = strKey prm.name → HasTyE K env prm.ty e.2) →
      d.initRaises (scalarArgs kw.toList) = false →
      HasTyE K env (.cls base) (.obj d.name kw)
  | float (r : String) (i : Option Int) : env.ext.yamlFloat (floatText r) = some (r, i) →
      HasTyE K env .float (.scalar (.float r i))
  | path (s : String) : env.find "Path" = none → HasTyE K env .path (.path s)
  | enum (d : ClassDef) (members : List String) (name : String) : SimpleLeafClass env d →
      d.kind = .enum members → members.contains name = true → HasTyE K env (.cls d.name) (.enumMember d.name name)
  | ustr (d : ClassDef) (t : String) : SimpleLeafClass env d → d.kind = .stringLike →
      d.initRaises [("", .str t)] = false → HasTyE K env (.cls d.name) (.userStr d.name t)
  | any (v : PyVal) : PlainAny v → HasTyE K env .any v
  | optNone (T : Ty) : NonNullTy env T → HasTyE K env (optTy T) (.scalar .none)
  | optSome (T : Ty) (v : PyVal) : NonNullTy env T → HasTyE K env T v → HasTyE K env (optTy T) v
  | optNoneH (base : String) (H : Nat) : PlainHier env base H → H ≤ K →
      HasTyE K env (optTy (.cls base)) (.scalar .none)
  | optSomeH (base : String) (d : ClassDef) (kw : PyKVs) (k j : Nat) : HierLeaf env d →
      Chain env d.params K base d.name k → k ≤ K → UpChain env d j → j ≤ K →
      (base = d.name ∨ d.ancestors.contains base = true) →
      kw.toList.map (·.1) = d.params.map (fun p => strKey p.name) →
      (∀ e ∈ kw.toList, ∀ prm ∈ d.params, e.1 = strKey prm.name → HasTyE K env prm.ty e.2) →
      d.initRaises (scalarArgs kw.toList) = false →
      HasTyE K env (optTy (.cls base)) (.obj d.name kw)
  | union (ms : Tys) (m : Ty) (k : NK) (v : PyVal) : m ∈ ms.toList → MemberTy env m k →
      (∀ m' ∈ ms.toList, m' ≠ m → ∃ k', MemberTy env m' k' ∧ k' ≠ k) → HasTyE K env m v →
      HasTyE K env (.union ms) v

-- How much fuel the loader needs for the node of a value.  3 for a position: a class is recognised through a
-- `.ty` and a `.classes` step, a Union around it takes one more; `K` for a hierarchy of that height that has
-- to reject the node (a null under `Optional[Base]`).  An object: 4, since its arguments are recognised two
-- levels below it (`.ty (.cls c)`, `.classes c`, then the attributes) where the items of a list are one
-- level below; `K` twice, for the chain of at most `K` subclass steps from the declared class down to the
-- object's own, and for the sibling subtrees of height at most `K` that must reject its mapping.
mutual
def need (K : Nat) : PyVal → Nat
  | .list xs => 3 + K + needL K xs
  | .dict kvs => 3 + K + needK K kvs
  | .obj _ kw => 4 + K + K + needK K kw
  | _ => 3 + K
def needL (K : Nat) : PyVals → Nat
  | .nil => 0
  | .cons x xs => max (need K x) (needL K xs)
def needK (K : Nat) : PyKVs → Nat
  | .nil => 2
  | .cons _ v r => max (need K v) (needK K r)
end

theorem need_pos (K : Nat) (v : PyVal) : 3 + K ≤ need K v := by
  cases v <;> simp [need]
  omega

theorem needL_mem (K : Nat) : ∀ (xs : PyVals) (x : PyVal), x ∈ xs.toList → need K x ≤ needL K xs
  | .cons y ys, x, h => by
    rw [needL]
    rcases List.mem_cons.mp h with rfl | h
    · exact Nat.le_max_left _ _
    · exact Nat.le_trans (needL_mem K ys x h) (Nat.le_max_right _ _)

theorem needK_mem (K : Nat) : ∀ (kvs : PyKVs) (e : PyVal × PyVal), e ∈ kvs.toList → need K e.2 ≤ needK K kvs
  | .cons k v r, e, h => by
    rw [needK]
    rcases List.mem_cons.mp h with rfl | h
    · exact Nat.le_max_left _ _
    · exact Nat.le_trans (needK_mem K r e h) (Nat.le_max_right _ _)

theorem needK_pos (K : Nat) : ∀ (kvs : PyKVs), 2 ≤ needK K kvs
  | .nil => Nat.le_refl 2
  | .cons _ v r => by rw [needK]; exact Nat.le_trans (needK_pos K r) (Nat.le_max_right _ _)

theorem nonNull_not_opt {env : Env} {T : Ty} (h : NonNullTy env T) : ∀ ms, T ≠ Ty.union ms := by
  intro ms e
  cases h <;> cases e

theorem memberTy_not_union {env : Env} {m : Ty} {k : NK} (h : MemberTy env m k) : ∀ ms, m ≠ Ty.union ms := by
  intro ms e
  cases h <;> cases e

theorem nonNull_cases {env : Env} {T : Ty} (h : NonNullTy env T) :
    (∃ k, MemberTy env T k ∧ k ≠ .null) ∨
    ∃ d, T = .cls d.name ∧ SimpleLeafClass env d ∧ ((∃ members, d.kind = .enum members) ∨ d.kind = .stringLike) := by
  cases h with
  | str => exact Or.inl ⟨.str, .str, by decide⟩
  | int => exact Or.inl ⟨.int, .int, by decide⟩
  | bool => exact Or.inl ⟨.bool, .bool, by decide⟩
  | seq k item => exact Or.inl ⟨.seq, .seq k item, by decide⟩
  | map k V => exact Or.inl ⟨.map, .map k V, by decide⟩
  | cls d S => exact Or.inl ⟨.map, .cls d S, by decide⟩
  | float => exact Or.inl ⟨.float, .float, by decide⟩
  | path => exact Or.inl ⟨.str, .path, by decide⟩
  | enumCls d members S hk => exact Or.inr ⟨d, rfl, S, Or.inl ⟨members, hk⟩⟩
  | strCls d S hk => exact Or.inr ⟨d, rfl, S, Or.inr hk⟩

theorem typeMatches_objUp {env : Env} {base : String} {d : ClassDef} (L : HierLeaf env d) {kw : PyKVs}
    (hinst : base = d.name ∨ d.ancestors.contains base = true) :
    typeMatches env (.obj d.name kw) (.cls base) = true := by
  rcases hinst with h | h
  · simp [-BEq.rfl, typeMatches_cls, isInstanceOf.eq_def, h]
  · simp [typeMatches_cls, isInstanceOf.eq_def, L.found, List.contains_iff_mem.mp h]

theorem hasTyE_matches {K : Nat} {env : Env} {T : Ty} {v : PyVal} (h : HasTyE K env T v) :
    typeMatches env v T = true := by
  induction h with
  | seq k item xs _ ih => exact typeMatches_seq.mpr ⟨xs, rfl, ih⟩
  | map k V kvs hk _ _ ih =>
    refine typeMatches_map.mpr ⟨kvs, rfl, fun e he => ⟨?_, ih e he⟩⟩
    obtain ⟨s, hs⟩ := hk e he
    exact hs ▸ rfl
  | objUp base d kw k j L _ _ _ _ hinst => exact typeMatches_objUp L hinst
  | optSomeH base d kw k j L _ _ _ _ hinst => exact typeMatches_union.mpr ⟨_, .head _, typeMatches_objUp L hinst⟩
  | optSome T v _ _ ih => exact typeMatches_union.mpr ⟨T, .head _, ih⟩
  | union ms m k v hm _ _ _ ih => exact typeMatches_union.mpr ⟨m, hm, ih⟩
  | optNone | optNoneH => exact typeMatches_union.mpr ⟨.null, .tail _ (.head _), by simp [typeMatches.eq_def]⟩
  -- `-BEq.rfl`: it sets off a slow search for `ReflBEq String` at every call; `beq_iff_eq` does the work
  | _ => simp [-BEq.rfl, typeMatches.eq_def, isInstanceOf]

theorem hasTyE_typeMatches (K : Nat) (env : Env) : ∀ (n : Nat) (T : Ty) (v : PyVal), need K v ≤ n → HasTyE K env T v →
    typeMatches env v T = true :=
  fun _ _ _ _ h => hasTyE_matches h

end YatimlModel.C05
