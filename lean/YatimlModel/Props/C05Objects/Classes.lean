import YatimlModel.Model.Process
/-!
The class tables C05 covers, as predicates on the class model: classes without hooks whose place in the
hierarchy is fixed (no registered relatives, or a leaf under a chain of registered bases whose sibling subtrees
lack a required parameter) — and what follows from the predicates alone: the classes on a chain are
registered, and savorizing such a class leaves the node as it is.
-/
namespace YatimlModel.C05

structure SimpleClass (env : Env) (d : ClassDef) : Prop where
  found : env.find d.name = some d
  kind : d.kind = .plain
  recog : d.recognize = none
  sav : d.savorize = none
  noBases : d.bases.filterMap (fun b => env.find b) = []
  concrete : d.abstract = false
  noSub : env.directSubclasses d.name = []
  nodup : (d.params.map (·.name)).Nodup
  args : ∀ prm ∈ d.params, d.argNames.contains prm.name = true ∧ prm.name ≠ "_yatiml_extra" ∧ prm.name ≠ "self"

/-- a registered enum / string-like class without hooks, registered bases or registered subclasses -/
structure SimpleLeafClass (env : Env) (d : ClassDef) : Prop where
  found : env.find d.name = some d
  recog : d.recognize = none
  sav : d.savorize = none
  noBases : d.bases.filterMap (fun b => env.find b) = []
  concrete : d.abstract = false
  noSub : env.directSubclasses d.name = []

/-- a parameter of another class, as seen from a mapping that carries exactly the keys `lp.map name` (the
leaf class's parameters): present with the very type the leaf declares, or absent and optional -/
def ParamPasses (lp : List Param) (q : Param) : Prop :=
  (∃ p ∈ lp, p.name = q.name ∧ p.ty = q.ty) ∨
  (q.required = false ∧ q.name ∉ lp.map (·.name) ∧ dashed q.name ∉ lp.map (·.name))

/-- the class does not accept such a mapping: it is abstract, or one of its required parameters is missing
(and the parameters before that one pass) -/
def ClassRejects (lp : List Param) (sd : ClassDef) : Prop :=
  sd.abstract = true ∨ ∃ pre prm post, sd.params = pre ++ prm :: post ∧ prm.required = true ∧
    prm.name ∉ lp.map (·.name) ∧ dashed prm.name ∉ lp.map (·.name) ∧ ∀ q ∈ pre, ParamPasses lp q

/-- the class `s` and every registered class below it reject such a mapping; `H` bounds the height -/
inductive SubtreeRejects (env : Env) (lp : List Param) : String → Nat → Prop
  | mk (s : String) (sd : ClassDef) (h H : Nat) : env.find s = some sd → sd.recognize = none → sd.kind = .plain →
      ClassRejects lp sd → (∀ t ∈ env.directSubclasses s, SubtreeRejects env lp t.name h) → h < H →
      SubtreeRejects env lp s H

/-- `s` and every registered class below it are plain classes without a custom recogniser (so none of them
takes a scalar); `H` bounds the height -/
inductive PlainHier (env : Env) : String → Nat → Prop
  | mk (s : String) (sd : ClassDef) (h H : Nat) : env.find s = some sd → sd.recognize = none → sd.kind = .plain →
      (∀ t ∈ env.directSubclasses s, PlainHier env t.name h) → h < H → PlainHier env s H

/-- a path of registered direct-subclass steps from `base` down to `c`: at every class on the way, the
next class of the path is among the registered direct subclasses and the subtrees of the other ones
reject the mapping (`lp`: the parameters of the leaf class `c`); `k` steps -/
inductive Chain (env : Env) (lp : List Param) (H : Nat) : String → String → Nat → Prop
  | here (c : String) : Chain env lp H c c 0
  | step (base mid c : String) (k : Nat) (bd md : ClassDef) : env.find base = some bd →
      md ∈ env.directSubclasses base → md.name = mid →
      (∀ s ∈ env.directSubclasses base, s.name ≠ mid → SubtreeRejects env lp s.name H) →
      Chain env lp H mid c k → Chain env lp H base c (k + 1)

/-- the registered bases above a class, one per level, none of them with a `_yatiml_savorize`: `j` levels -/
inductive UpChain (env : Env) : ClassDef → Nat → Prop
  | root (d : ClassDef) : d.savorize = none → d.bases.filterMap (fun b => env.find b) = [] → UpChain env d 0
  | step (d bd : ClassDef) (j : Nat) : d.savorize = none → d.bases.filterMap (fun b => env.find b) = [bd] →
      UpChain env bd j → UpChain env d (j + 1)

/-- the most derived class of a hierarchy: a plain class without hooks and without registered subclasses,
possibly with registered bases (`UpChain`) -/
structure HierLeaf (env : Env) (d : ClassDef) : Prop where
  found : env.find d.name = some d
  kind : d.kind = .plain
  recog : d.recognize = none
  concrete : d.abstract = false
  noExtra : d.takesExtra = false
  noSub : env.directSubclasses d.name = []
  nodup : (d.params.map (·.name)).Nodup
  args : ∀ prm ∈ d.params, d.argNames.contains prm.name = true ∧ prm.name ≠ "_yatiml_extra" ∧ prm.name ≠ "self"

theorem chain_found {env : Env} {lp : List Param} {H : Nat} {base c : String} {k : Nat}
    (h : Chain env lp H base c k) {d : ClassDef} (hd : env.find c = some d) : ∃ bd, env.find base = some bd := by
  cases h with
  | here => exact ⟨d, hd⟩
  | step _ _ _ _ bd _ hf _ _ _ _ => exact ⟨bd, hf⟩

theorem plainHier_found {env : Env} {s : String} {H : Nat} (h : PlainHier env s H) : ∃ sd, env.find s = some sd := by
  cases h with
  | mk _ sd _ _ hf _ _ _ _ => exact ⟨sd, hf⟩

theorem savorize_leaf {env : Env} {d : ClassDef} (S : SimpleLeafClass env d) (f : Nat) (n : Node) :
    savorize env (f + 1) n d = .ok (n, []) := by
  simp [savorize, S.noBases, S.sav]

theorem savorize_up (env : Env) : ∀ (d : ClassDef) (j : Nat), UpChain env d j → ∀ (f : Nat), j ≤ f → ∀ (n : Node),
    savorize env (f + 1) n d = .ok (n, []) := by
  intro d j h
  induction h with
  | root d hs hb => intro f _ n; simp only [savorize, hb, hs, List.foldl_nil]
  | step d bd j hs hb _ ih =>
    intro f hf n
    obtain ⟨f', rfl⟩ := Nat.exists_eq_add_one.mpr (Nat.zero_lt_of_lt hf)
    have := ih f' (Nat.le_of_succ_le_succ hf) n
    show savorize env (f' + 1 + 1) n d = _
    unfold savorize
    simp only [hb, List.foldl_cons, List.foldl_nil, this, hs, List.nil_append]

end YatimlModel.C05
