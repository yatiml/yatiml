import YatimlModel.Props.C05Objects.RecUnion
import YatimlModel.Props.C05Objects.ObjNode
/-!
The node the representers build for a value of `HasTyE` describes it (`Desc`): by induction on the representer's
fuel, first for types other than a Union, with the recognised type chosen before the loader's fuel
(`desc_core`), then for Unions, where the other members reject the node.
-/
namespace YatimlModel.C05

theorem desc_objUp {K : Nat} {env : Env} {denv : DumpEnv} {tbl : List Entry} (hns : C07.NoSweeten denv) {g : Nat}
    (IH : ∀ (T : Ty) (v : PyVal) (o : RepOut), represent denv g v = .ok o → HasTyE K env T v →
      ∀ f, need K v ≤ f → RT env tbl f T v o.node)
    {base : String} {d : ClassDef} {kw : PyKVs} {k j : Nat} (L : HierLeaf env d)
    (hchain : Chain env d.params K base d.name k) (hkK : k ≤ K) (hup : UpChain env d j) (hjK : j ≤ K)
    (hkeys : kw.toList.map (·.1) = d.params.map (fun p => strKey p.name))
    (hvals : ∀ e ∈ kw.toList, ∀ prm ∈ d.params, e.1 = strKey prm.name → HasTyE K env prm.ty e.2)
    (hinit : d.initRaises (scalarArgs kw.toList) = false)
    {o : RepOut} (h : represent denv (g + 1) (.obj d.name kw) = .ok o) {f : Nat}
    (hf : need K (.obj d.name kw) ≤ f + 1) :
    DescAt env tbl f (.cls base) (.cls d.name) (.obj d.name kw) o.node := by
  obtain ⟨ps, hn, ha⟩ := represent_class denv hns h
  rw [attributesOf_noExtra kw.toList (keys_not_extra hkeys (fun prm hprm => (L.args prm hprm).2.1))] at ha
  rw [hn]
  simp only [need] at hf
  obtain ⟨b, rfl⟩ : ∃ b, f = b + 1 + k + 1 := ⟨f - 2 - k, by omega⟩
  have hKb : needK K kw + K ≤ b := by omega
  -- each argument: what the object's shape asks, and what the recognition of the chain asks
  have A : Aligned d.params (fun prm v n => (RT env tbl (b + 1 + k) prm.ty v n ∧ typeMatches env v prm.ty = true) ∧
      ∀ f', needK K kw ≤ f' → Unique (recognizeReq env f' n (.ty prm.ty))) kw.toList ps :=
    aligned_of_rep hkeys ha (by
      rintro e hem prm hprm hk n ⟨vo, hvo, hvn⟩
      have hty := hvals e hem prm hprm hk
      have hnk := needK_mem K kw e hem
      have hrt := fun f' hf' => hvn ▸ IH prm.ty e.2 vo hvo hty f' hf'
      exact ⟨⟨hrt _ (by omega), hasTyE_matches hty⟩,
        fun f' hf' => rt_unique (hrt f' (Nat.le_trans hnk hf'))⟩)
  have M : LeafMap env d.params ps (needK K kw) :=
    { keys := A.keys hkeys
      dist := keysDistinct_of_keys (A.keys hkeys) L.nodup
      vals := fun prm hprm => by
        obtain ⟨p, hp, hk, _, _, hu⟩ := A.find hkeys L.nodup prm hprm
        exact ⟨p, hp, hk, hu⟩ }
  have hleaf := recognize_classes_leaf L.found L.kind L.recog L.concrete L.noSub b ps gen M.dist
    (fun prm hprm => (M.vals prm hprm).imp fun p h =>
      ⟨h.1, h.2.1, h.2.2 b (Nat.le_trans (Nat.le_add_right _ K) hKb)⟩)
  have hch := recognize_chain env d.params K ps gen d.name b (needK K kw) M hKb hleaf base k hchain true
  obtain ⟨bd, hbd⟩ := chain_found hchain L.found
  refine ⟨[okLeaf], (recognize_cls hbd).trans hch, b + 1 + k, rfl, ?_⟩
  exact rtcore_obj d kw.toList [] ps [] L.found L.kind L.nodup L.args
    (by simp [L.noExtra]) (List.append_nil ps).symm hkeys (savorize_up env d j hup (b + 1 + k) (by omega) _)
    (A.imp (fun _ _ _ _ h => h.1)) All2.nil M.dist (fun _ => rfl) hinit

theorem desc_core {K : Nat} {env : Env} {denv : DumpEnv} {tbl : List Entry} (hns : C07.NoSweeten denv) {g : Nat}
    (IH : ∀ (T : Ty) (v : PyVal) (o : RepOut), represent denv g v = .ok o → HasTyE K env T v →
      ∀ f, need K v ≤ f → RT env tbl f T v o.node) :
    ∀ (T : Ty) (v : PyVal) (o : RepOut), represent denv (g + 1) v = .ok o → HasTyE K env T v →
      (∀ ms, T ≠ Ty.union ms) → ∃ R, ∀ f, need K v ≤ f + 3 → DescAt env tbl (f + 2) T R v o.node := by
  intro T v o h ht hno
  have hb := represent_builtin denv h
  have hc := represent_class denv hns h
  cases ht
  case str s => exact ⟨.str, fun f _ => hb ▸ .leaf rfl (.str s _)⟩
  case int i => exact ⟨.int, fun f _ => hb ▸ .leaf rfl (.int i _ _ (constructInt_int i))⟩
  case bool b => exact ⟨.bool, fun f _ => hb ▸ .leaf rfl (.bool b _ _ (constructBool_repr b))⟩
  case null => exact ⟨.null, fun f _ => hb ▸ .leaf rfl (.null _ _)⟩
  case float r i hfl => exact ⟨.float, fun f _ => hb ▸ .leaf rfl (.float r i _ _ hfl)⟩
  case path t hp => exact ⟨.path, fun f _ => hb ▸ .leaf rfl (.path t _ hp)⟩
  case enum d members name S hk hmem =>
    exact ⟨.cls d.name, fun f _ => hc ▸ ⟨[okLeaf], recognize_leaf_class S (Or.inl ⟨members, hk⟩) f name gen, f + 1, rfl,
      .enum d.name name gen d members S.found hk hmem (savorize_leaf S _ _)⟩⟩
  case ustr d t S hk hinit =>
    exact ⟨.cls d.name, fun f _ => hc ▸ ⟨[okLeaf], recognize_leaf_class S (Or.inr hk) f t gen, f + 1, rfl,
      .userStr d.name t gen d S.found hk hinit (savorize_leaf S _ _)⟩⟩
  case any hp =>
    refine ⟨.any, fun f hf => ?_⟩
    obtain ⟨cs, hc⟩ := construct_plain K env denv tbl (g + 1) v o h hp (f + 2) hf
    exact ⟨[okLeaf], rfl, f + 1, rfl, RTcore.any v o.node cs hc⟩
  case seq k item xs hx =>
    obtain ⟨ns, hn, ha⟩ := hb
    refine ⟨.seq k item, fun f hf => ?_⟩
    simp only [need] at hf
    refine hn ▸ .seq k gen (ha.imp_mem ?_)
    rintro x hxm n ⟨o, ho, hn⟩
    exact hn ▸ IH item x o ho (hx x hxm) (f + 1) (by have := needL_mem K xs x hxm; omega)
  case map k V kvs hes hev hk =>
    obtain ⟨ps, hn, ha⟩ := hb
    refine ⟨.map k .str V, fun f hf => ?_⟩
    simp only [need] at hf
    refine hn ▸ .map k gen (ha.imp_mem ?_) hk rfl
    rintro e hem p ⟨⟨ko, hko, hkn⟩, ⟨vo, hvo, hvn⟩⟩
    obtain ⟨s, hs⟩ := hes e hem
    have hfe : need K e.2 ≤ f + 1 := by have := needK_mem K kvs e hem; omega
    rw [hs] at hko ⊢
    exact ⟨hkn ▸ IH .str _ ko hko (HasTyE.str s) (f + 1) (Nat.le_trans (need_pos K e.2) hfe),
      hvn ▸ IH V e.2 vo hvo (hev e hem) (f + 1) hfe⟩
  case obj d kw S hte hkeys hvals hinit =>
    exact ⟨.cls d.name, fun f hf => desc_objUp hns IH
      ⟨S.found, S.kind, S.recog, S.concrete, hte, S.noSub, S.nodup, S.args⟩ (.here d.name) (Nat.zero_le K)
      (.root d S.sav S.noBases) (Nat.zero_le K) hkeys hvals hinit h hf⟩
  case objUp base d kw k j L hchain hkK hup hjK hinst hkeys hvals hinit =>
    exact ⟨.cls d.name, fun f hf => desc_objUp hns IH L hchain hkK hup hjK hkeys hvals hinit h hf⟩
  case objX d mainKw extraKw S hte hkeys hvals hext hplain hkok hinit =>
    refine ⟨.cls d.name, fun b hf => ?_⟩
    obtain ⟨ps, hn, ha⟩ := hc
    rw [PyKVs.toList_ofList, attributesOf_with_extra mainKw extraKw
      (keys_not_extra hkeys (fun prm hprm => (S.args prm hprm).2.1))] at ha
    obtain ⟨ps1, ps2, rfl, ha1, ha2⟩ := ha.append_left
    rw [hn]
    simp only [need] at hf
    -- fuel: every argument, and every extra attribute, fits two levels down
    have hkwNeed : ∀ e ∈ mainKw ++ [(strKey "_yatiml_extra", PyVal.dict (PyKVs.ofList extraKw))], need K e.2 + 1 ≤ b :=
      fun e he => by have := needK_mem K (PyKVs.ofList _) e (by rw [PyKVs.toList_ofList]; exact he); omega
    have hextraNeed : ∀ e ∈ extraKw, need K e.2 ≤ b + 2 := fun e he => by
      have h1 := hkwNeed _ (List.mem_append_right _ (List.mem_singleton_self _))
      have h2 := needK_mem K (PyKVs.ofList extraKw) e (by rw [PyKVs.toList_ofList]; exact he)
      simp only [need] at h1
      omega
    have A : Aligned d.params (fun prm v n => (RT env tbl (b + 1) prm.ty v n ∧ typeMatches env v prm.ty = true) ∧
        Unique (recognizeReq env b n (.ty prm.ty))) mainKw ps1 :=
      aligned_of_rep hkeys ha1 (by
        rintro e hem prm hprm hk n ⟨vo, hvo, hvn⟩
        have hty := hvals e hem prm hprm hk
        have hnk := hkwNeed e (List.mem_append_left _ hem)
        have hrt := fun f' hf' => hvn ▸ IH prm.ty e.2 vo hvo hty f' hf'
        exact ⟨⟨hrt _ (Nat.le_succ_of_le (Nat.le_of_lt hnk)), hasTyE_matches hty⟩,
          rt_unique (hrt b (Nat.le_of_lt hnk))⟩)
    have E : All2 (fun e p => ∃ name cs, e.1 = strKey name ∧ p.1 = .scalar tStr name gen ∧
        d.argNames.contains name = false ∧ name ≠ "self" ∧
        construct env tbl (b + 1) (stripTags tbl p.2) = .ok ⟨e.2, cs⟩) extraKw ps2 :=
      ha2.imp_mem (by
        rintro e hem p ⟨hkr, ⟨vo, hvo, hvn⟩⟩
        obtain ⟨nm, hnm, hna, hns'⟩ := hext e hem
        obtain ⟨cs, hc⟩ := construct_plain K env denv tbl g e.2 vo hvo (hplain e hem) (b + 1) (hextraNeed e hem)
        rw [hnm] at hkr
        exact ⟨nm, cs, hnm, repTo_scalar hkr, hna, hns', hvn ▸ hc⟩)
    -- the keys of the mapping: the parameter names, then the names of the extra attributes, all different
    have hk2 : ps2.map (·.1) = (extraKw.map (fun e => nameOfKey e.1)).map (fun nm => Node.scalar tStr nm gen) := by
      rw [List.map_map]
      refine (E.map_eq _ _ ?_).symm
      rintro e p ⟨nm, cs, h1, h2, _⟩
      simp only [Function.comp, h1, h2, strKey, nameOfKey]
    have hext' : ∀ e ∈ extraKw, e.1 = strKey (nameOfKey e.1) ∧ d.argNames.contains (nameOfKey e.1) = false :=
      fun e he => by
        obtain ⟨s, hs, hna, _⟩ := hext e he
        rw [hs]
        exact ⟨rfl, hna⟩
    have hnames : ((d.params.map (·.name)) ++ (extraKw.map (fun e => nameOfKey e.1))).Nodup := by
      refine List.nodup_append.mpr ⟨S.nodup, List.pairwise_map.mpr (hkok.2.imp_of_mem ?_), ?_⟩
      · intro a c ha hc hac heq
        rw [(hext' a ha).1, (hext' c hc).1, keyEq_str, heq] at hac
        simp [-BEq.rfl] at hac  -- `BEq.rfl` would set off a slow search for `ReflBEq String`
      · intro x hx y hy hxy
        obtain ⟨prm, hprm, rfl⟩ := List.mem_map.mp hx
        obtain ⟨e, he, rfl⟩ := List.mem_map.mp hy
        have := (S.args prm hprm).1
        rw [hxy, (hext' e he).2] at this
        cases this
    have hdist : KeysDistinct (ps1 ++ ps2) :=
      keysDistinct_of_keys (by rw [List.map_append, A.keys hkeys, hk2, List.map_append]) hnames
    have hrec := recognize_simple_obj env d S b (ps1 ++ ps2) gen hdist (fun prm hprm => by
      obtain ⟨p, hp, hk, _, _, hu⟩ := A.find hkeys S.nodup prm hprm
      exact ⟨p, List.mem_append_left _ hp, hk, hu⟩)
    refine ⟨[okLeaf], hrec, b + 1, rfl, ?_⟩
    exact rtcore_obj d mainKw extraKw ps1 ps2 S.found S.kind S.nodup S.args
      (by simp [hte]) rfl hkeys (savorize_up env d 0 (.root d S.sav S.noBases) _ (Nat.zero_le _) _)
      (A.imp (fun _ _ _ _ h => h.1)) E hdist (fun hf' => by rw [hte] at hf'; cases hf') (by simpa using hinit)
  -- left: the constructors for a Union
  all_goals exact absurd rfl (hno _)

theorem descAt_union {env : Env} {tbl : List Entry} {f : Nat} {ms : Tys} {m R : Ty} {v : PyVal} {n : Node}
    (hm : m ∈ ms.toList) (h1 : DescAt env tbl f m R v n) (h2 : DescAt env tbl (f + 1) m R v n)
    (hrej : ∀ m' ∈ ms.toList, m' ≠ m → Rejects (recognizeReq env f n (.ty m'))) :
    DescAt env tbl (f + 1) (.union ms) R v n := by
  obtain ⟨l1, hr1, _⟩ := h1
  obtain ⟨_, _, f', hf', hc⟩ := h2
  refine ⟨[okLeaf], ?_, f', hf', hc⟩
  rw [recognize, recognizeReq_union]
  refine recUnion_one _ _ R ms.toList (fun m' hm' => ?_) ⟨m, hm, l1, hr1⟩
  by_cases hmm : m' = m
  · exact Or.inl ⟨l1, hmm ▸ hr1⟩
  · exact Or.inr (hrej m' hm' hmm)

/-- **The representers' node describes the value**, for the values of `HasTyE`, nested to any depth:
recognition singles out one type at every node, and the node has the shape the loader turns back into the
value. -/
theorem simple_described (K : Nat) (env : Env) (denv : DumpEnv) (tbl : List Entry) (hns : C07.NoSweeten denv) :
    ∀ (g : Nat) (T : Ty) (v : PyVal) (o : RepOut), represent denv g v = .ok o → HasTyE K env T v →
      ∀ f, need K v ≤ f → Desc env tbl f T v o.node := by
  intro g
  induction g with
  | zero => exact fun _ _ _ h => nomatch h
  | succ g IH =>
    intro T v o h ht f hf
    have core := desc_core hns (fun T v o h ht f hf => (IH T v o h ht f hf).elim fun _ => DescAt.toRT)
    obtain ⟨f, rfl⟩ := Nat.exists_eq_add_of_le' (show 3 ≤ f by have := need_pos K v; omega)
    by_cases hU : ∃ ms, T = .union ms
    case neg =>
      obtain ⟨R, hR⟩ := core T v o h ht (fun ms e => hU ⟨ms, e⟩)
      exact ⟨R, hR (f + 1) (Nat.le_succ_of_le hf)⟩
    obtain ⟨ms, rfl⟩ := hU
    -- the member concerned recognises the node (here and one level down); it is left to show that the others refuse it
    have member : ∀ m, m ∈ ms.toList → (∀ ms', m ≠ Ty.union ms') → HasTyE K env m v →
        ∃ R l, recognizeReq env (f + 2) o.node (.ty m) = .ok ([R], l) ∧
          ((∀ m' ∈ ms.toList, m' ≠ m → Rejects (recognizeReq env (f + 2) o.node (.ty m'))) →
            Desc env tbl (f + 3) (.union ms) v o.node) := by
      intro m hm hnu hin
      obtain ⟨R, hR⟩ := core m v o h hin hnu
      obtain ⟨l, hr, _⟩ := hR f hf
      exact ⟨R, l, hr, fun hrej => ⟨R, descAt_union hm (hR f hf) (hR (f + 1) (Nat.le_succ_of_le hf)) hrej⟩⟩
    cases ht with
    | union _ m k v hmem hmt hothers hin =>
      obtain ⟨R, l, hr, hd⟩ := member m hmem (memberTy_not_union hmt) hin
      have hkind : NodeIs o.node k := (member_kind env m k o.node f hmt).resolve_left (fun ⟨l', hl⟩ => by
        rw [hr] at hl; cases hl)
      exact hd (fun m' hm' hmm => by
        obtain ⟨k', hmt', hkk⟩ := hothers m' hm' hmm
        exact reject_member env m' k' k o.node f hmt' hkind hkk)
    | optSome T v hnn hin =>
      obtain ⟨R, l, hr, hd⟩ := member T (.head _) (nonNull_not_opt hnn) hin
      refine hd (forall_mem_pair (absurd rfl) (fun _ => ?_))
      -- were the node a null scalar, `T` would have refused it
      refine (recScalar_kind o.node .null tNull).resolve_right ?_
      rintro ⟨s, m, e⟩
      obtain ⟨l', hl⟩ := reject_null env T hnn f s m
      rw [e, hl] at hr; cases hr
    | optSomeH base d kw k j L h1 h2 h3 h4 h5 h6 h7 h8 =>
      obtain ⟨R, l, hr, hd⟩ := member (.cls base) (.head _) (fun _ => nofun)
        (.objUp base d kw k j L h1 h2 h3 h4 h5 h6 h7 h8)
      obtain ⟨ps, hn, _⟩ := represent_class denv hns h
      refine hd (forall_mem_pair (absurd rfl) (fun _ => ?_))
      rw [hn]
      exact ⟨_, rfl⟩
    | optNone T hnn =>
      obtain ⟨R, l, hr, hd⟩ := member .null (.tail _ (.head _)) (fun _ => nofun) .null
      refine hd (forall_mem_pair (fun _ => ?_) (absurd rfl))
      rw [show o.node = _ from represent_builtin denv h]
      exact reject_null env T hnn f "null" gen
    | optNoneH base H hph hHK =>
      obtain ⟨R, l, hr, hd⟩ := member .null (.tail _ (.head _)) (fun _ => nofun) .null
      simp only [need] at hf
      refine hd (forall_mem_pair (fun _ => ?_) (absurd rfl))
      obtain ⟨sd, hsd⟩ := plainHier_found hph
      rw [show o.node = _ from represent_builtin denv h, ← recognize, recognize_cls hsd]
      exact hier_rejects_scalar env tNull "null" gen base H hph (f + 1) (by omega) true

end YatimlModel.C05
