import YatimlModel.Props.C05Objects.Classes
import YatimlModel.Props.C05Plain
/-!
Recognition against a class, read off the class step `recClasses`: a class without registered subclasses takes a
mapping that has all its parameters; a subtree of classes each lacking a required parameter takes nothing, so a
leaf is recognised through every base of its chain; plain classes take no scalar.
-/
namespace YatimlModel.C05
open NodeOps

def Rejects (r : RecRes) : Prop := ∃ l, r = .ok ([], l)

theorem rejects_recFail (m : List Mark) (k : List String) : Rejects (recFail m k) := ⟨_, rfl⟩

theorem recSubclasses_one (recC : ClassDef → RecRes) (R : Ty) :
    ∀ (ds : List ClassDef) (acc : ClsAcc),
      (∀ s ∈ ds, (∃ l, recC s = .ok ([R], l)) ∨ Rejects (recC s)) →
      (acc.types = [] ∨ acc.types = [R]) →
      ∃ acc', recSubclasses recC ds acc = .ok acc' ∧ (acc'.types = [] ∨ acc'.types = [R]) ∧
        ((acc.types = [R] ∨ ∃ s ∈ ds, ∃ l, recC s = .ok ([R], l)) → acc'.types = [R]) ∧
        ((acc.types = [] ∧ ∀ s ∈ ds, Rejects (recC s)) → acc'.types = []) := by
  intro ds acc hall ha
  obtain ⟨a, hc, h1, h2⟩ := collect_single recC R ds (acc.types, acc.causes) hall ha
  refine ⟨⟨a.1, a.2⟩, by rw [recSubclasses_eq, hc]; rfl, h1, h2, fun h => ?_⟩
  obtain ⟨_, hc'⟩ := collect_rejects h.2 (acc.types, acc.causes)
  cases hc.symm.trans hc'
  exact h.1

theorem recAttr_present {rec : Node → Ty → RecRes} {n : Node} {ps : List (Node × Node)} {prm : Param} {p : Node × Node}
    (hd : KeysDistinct ps) (hp : p ∈ ps) (hk : p.1.keyIs prm.name = true) (hu : Unique (rec p.2 prm.ty)) :
    recAttr rec n ps prm = .ok none := by
  obtain ⟨R, l, hr⟩ := hu
  rw [recAttr_eq, show hasKey ps prm.name = true from List.any_eq_true.mpr ⟨p, hp, hk⟩, if_pos rfl, valueVerdict,
    valuesOf_distinct ps prm.name p hd hp hk]
  simp only [hr]
  rfl

theorem recAttrs_all_present (rec : Node → Ty → RecRes) (n : Node) (ps : List (Node × Node))
    (hd : KeysDistinct ps) : ∀ (params : List Param),
    (∀ prm ∈ params, ∃ p ∈ ps, p.1.keyIs prm.name = true ∧ Unique (rec p.2 prm.ty)) →
    recAttrs rec n ps params = .ok none := by
  intro params h
  rw [recAttrs_eq, firstSome_none, List.forall_mem_map]
  intro prm hprm
  obtain ⟨p, hp, hk, hu⟩ := h prm hprm
  exact recAttr_present hd hp hk hu

theorem recognize_classes_leaf {env : Env} {d : ClassDef} (hfound : env.find d.name = some d) (hkind : d.kind = .plain)
    (hrecog : d.recognize = none) (hconc : d.abstract = false) (hnosub : env.directSubclasses d.name = [])
    (b : Nat) (ps : List (Node × Node)) (m : Mark) (hdist : KeysDistinct ps)
    (hall : ∀ prm ∈ d.params, ∃ p ∈ ps, p.1.keyIs prm.name = true ∧
      Unique (recognizeReq env b p.2 (.ty prm.ty))) (top : Bool) :
    recognizeReq env (b + 1) (.map tMap (Pairs.ofList ps) m) (.classes d.name top)
      = .ok ([.cls d.name], [okLeaf]) := by
  rw [recognizeReq_classes]
  refine recClasses_self top hfound [okLeaf] hconc (hnosub ▸ List.forall_mem_nil _) ?_
    (core_short tMap (by simp only [core_tags]))
  -- `eq_def`: under the bare name `simp` first derives the equations that split `recUserClass`'s matches, anew in
  -- every proof, which is slow
  simp only [recUserClass.eq_def, hrecog, hkind, Pairs.toList_ofList, recOk,
    recAttrs_all_present (fun x U => recognizeReq env b x (.ty U)) _ ps hdist d.params hall]

theorem recognize_simple_obj (env : Env) (d : ClassDef) (S : SimpleClass env d) (b : Nat)
    (ps : List (Node × Node)) (m : Mark) (hdist : KeysDistinct ps)
    (hall : ∀ prm ∈ d.params, ∃ p ∈ ps, p.1.keyIs prm.name = true ∧
      Unique (recognizeReq env b p.2 (.ty prm.ty))) :
    recognize env (b + 2) (.map tMap (Pairs.ofList ps) m) (.cls d.name) = .ok ([.cls d.name], [okLeaf]) :=
  (recognize_cls S.found).trans
    (recognize_classes_leaf S.found S.kind S.recog S.concrete S.noSub b ps m hdist hall true)

theorem recognize_leaf_class {env : Env} {d : ClassDef} (S : SimpleLeafClass env d)
    (hk : (∃ members, d.kind = .enum members) ∨ d.kind = .stringLike) (b : Nat) (t : String) (m : Mark) :
    recognize env (b + 2) (.scalar tStr t m) (.cls d.name) = .ok ([.cls d.name], [okLeaf]) := by
  rw [recognize_cls S.found, recognizeReq_classes]
  refine recClasses_self true S.found [okLeaf] S.concrete (S.noSub ▸ List.forall_mem_nil _) ?_
    (core_short tStr (by simp only [core_tags]))
  -- `-BEq.rfl`: it sets off a slow search for `ReflBEq String` at every call; `beq_iff_eq` does the work
  rcases hk with ⟨members, hk⟩ | hk <;> simp [-BEq.rfl, recUserClass.eq_def, S.recog, hk, recOk]

/-- the facts about the mapping of a leaf object that the sibling analysis uses; `c0`: the fuel from which on
each argument's node is recognised as exactly one type -/
structure LeafMap (env : Env) (lp : List Param) (ps : List (Node × Node)) (c0 : Nat) : Prop where
  keys : ps.map (·.1) = (lp.map (·.name)).map (fun nm => Node.scalar tStr nm gen)
  dist : KeysDistinct ps
  vals : ∀ prm ∈ lp, ∃ p ∈ ps, p.1.keyIs prm.name = true ∧ ∀ f, c0 ≤ f → Unique (recognizeReq env f p.2 (.ty prm.ty))

theorem LeafMap.noKey {env : Env} {lp : List Param} {ps : List (Node × Node)} {c0 : Nat} (M : LeafMap env lp ps c0)
    (x : String) (h : x ∉ lp.map (·.name)) : hasKey ps x = false := by
  refine List.any_eq_false.mpr (fun p hp hk => h ?_)
  obtain ⟨nm, hnm, he⟩ := mem_of_map_eq M.keys hp
  rw [← he, keyIs_scalar, beq_iff_eq] at hk
  exact hk ▸ hnm

theorem recAttr_passes {env : Env} {lp : List Param} {ps : List (Node × Node)} {c0 f : Nat} (hf : c0 ≤ f)
    (M : LeafMap env lp ps c0) (n : Node) {q : Param} (hq : ParamPasses lp q) :
    recAttr (fun x U => recognizeReq env f x (.ty U)) n ps q = .ok none := by
  rcases hq with ⟨p, hp, hname, hty⟩ | ⟨hopt, h1, h2⟩
  · obtain ⟨pr, hpr, hk, hu⟩ := M.vals p hp
    exact recAttr_present M.dist hpr (hname ▸ hk) (hty ▸ hu f hf)
  · simp only [recAttr_eq, M.noKey _ h1, M.noKey _ h2, hopt, Bool.false_eq_true, ↓reduceIte]

theorem recAttrs_rejects (env : Env) (lp : List Param) (ps : List (Node × Node)) (c0 f : Nat) (hf : c0 ≤ f)
    (M : LeafMap env lp ps c0) (n : Node) (prm : Param) (post : List Param) (hreq : prm.required = true)
    (h1 : prm.name ∉ lp.map (·.name)) (h2 : dashed prm.name ∉ lp.map (·.name)) :
    ∀ (pre : List Param), (∀ q ∈ pre, ParamPasses lp q) →
      ∃ l, recAttrs (fun x U => recognizeReq env f x (.ty U)) n ps (pre ++ prm :: post) = .ok (some l) := by
  intro pre hp
  induction pre with
  | nil =>
    simp only [List.nil_append, recAttrs, recAttr_eq, M.noKey _ h1, M.noKey _ h2, hreq, Bool.false_eq_true, ↓reduceIte]
    exact ⟨_, rfl⟩
  | cons q pre ih =>
    simp only [List.cons_append, recAttrs, recAttr_passes hf M n (hp q (.head _))]
    exact ih (fun x hx => hp x (.tail _ hx))

theorem subtree_rejects (env : Env) (lp : List Param) (ps : List (Node × Node)) (m : Mark) (c0 : Nat)
    (M : LeafMap env lp ps c0) :
    ∀ (s : String) (H : Nat), SubtreeRejects env lp s H → ∀ (f : Nat), c0 + H ≤ f → ∀ top,
      Rejects (recognizeReq env f (.map tMap (Pairs.ofList ps) m) (.classes s top)) := by
  intro s H h
  induction h with
  | mk s sd h H hf hrecog hkind hcr _ hlt ih =>
    intro f hfuel top
    have hlt' := Nat.lt_of_lt_of_le (Nat.add_lt_add_left hlt c0) hfuel
    obtain ⟨f', rfl⟩ := Nat.exists_eq_add_one.mpr (Nat.zero_lt_of_lt hlt')
    rw [recognizeReq_classes]
    refine recClasses_rejects top hf (fun t ht => ih t ht f' (Nat.le_of_lt_succ hlt') false) (fun hab => ?_)
    rcases hcr with habs | ⟨pre, prm, post, hparams, hreq, hn1, hn2, hpre⟩
    · cases hab.symm.trans habs
    · obtain ⟨l, hl⟩ := recAttrs_rejects env lp ps c0 f' (Nat.le_of_add_right_le (Nat.le_of_lt_succ hlt')) M
        (.map tMap (Pairs.ofList ps) m) prm post hreq hn1 hn2 pre hpre
      rw [← hparams] at hl
      simp only [recUserClass.eq_def, hrecog, hkind, Pairs.toList_ofList, hl]
      exact ⟨_, rfl⟩

/-- at every base on the chain the subclass on the path matched and the other subtrees reject, so the base
itself is not tried -/
theorem recognize_chain (env : Env) (lp : List Param) (H : Nat) (ps : List (Node × Node)) (m : Mark) (c : String)
    (b c0 : Nat) (M : LeafMap env lp ps c0) (hb : c0 + H ≤ b)
    (hleaf : ∀ top, recognizeReq env (b + 1) (.map tMap (Pairs.ofList ps) m) (.classes c top)
      = .ok ([.cls c], [okLeaf])) :
    ∀ (base : String) (k : Nat), Chain env lp H base c k → ∀ top,
      recognizeReq env (b + 1 + k) (.map tMap (Pairs.ofList ps) m) (.classes base top) = .ok ([.cls c], [okLeaf]) := by
  intro base k h
  induction h with
  | here c => intro top; exact hleaf top
  | step base mid c k bd md hf hmem hmid hsib _ ih =>
    intro top
    have hmd := ih hleaf false
    show recognizeReq env (b + 1 + k + 1) _ _ = _
    rw [recognizeReq_classes]
    refine recClasses_sub top hf (.cls c) (fun s hs => ?_) ⟨md, hmem, _, hmid ▸ hmd⟩
      (core_short tMap (by simp only [core_tags]))
    by_cases hsn : s.name = mid
    · exact Or.inl ⟨_, hsn ▸ hmd⟩
    · exact Or.inr (subtree_rejects env lp ps m c0 M s.name H (hsib s hs hsn) (b + 1 + k)
        (Nat.le_add_right_of_le (Nat.le_succ_of_le hb)) false)

theorem hier_rejects_scalar (env : Env) (t v : String) (m : Mark) :
    ∀ (s : String) (H : Nat), PlainHier env s H → ∀ (f : Nat), H ≤ f → ∀ top,
      Rejects (recognizeReq env f (.scalar t v m) (.classes s top)) := by
  intro s H h
  induction h with
  | mk s sd h H hf hrecog hkind _ hlt ih =>
    intro f hfuel top
    have hlt' := Nat.lt_of_lt_of_le hlt hfuel
    obtain ⟨f', rfl⟩ := Nat.exists_eq_add_one.mpr (Nat.zero_lt_of_lt hlt')
    rw [recognizeReq_classes]
    refine recClasses_rejects top hf (fun u hu => ih u hu f' (Nat.le_of_lt_succ hlt') false) (fun _ => ?_)
    simp only [recUserClass.eq_def, hrecog, hkind]
    exact rejects_recFail _ _

end YatimlModel.C05
