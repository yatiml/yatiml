import YatimlModel.Props.C05Objects.Typed
import YatimlModel.Props.C05Objects.RecClasses
/-!
Recognition against a Union (`Optional[T]` is `Union[T, None]`): every member type accepts one kind of node
(`NodeIs`) and rejects the others, so a Union whose members accept different kinds settles on the one member
that takes the node.
-/
namespace YatimlModel.C05

theorem recUnion_one (rec : Node → Ty → RecRes) (n : Node) (R : Ty) (ms : List Ty)
    (hall : ∀ m' ∈ ms, (∃ l, rec n m' = .ok ([R], l)) ∨ Rejects (rec n m'))
    (hone : ∃ m' ∈ ms, ∃ l, rec n m' = .ok ([R], l)) :
    recUnion rec n ms = .ok ([R], [okLeaf]) := by
  obtain ⟨⟨ts, causes⟩, hc, _, h1⟩ := collect_single (rec n) R ms ([], []) hall (Or.inl rfl)
  obtain rfl : ts = [R] := h1 (Or.inr hone)
  rw [recUnion_eq, hc]
  -- `-BEq.rfl`: it sets off a slow search for `ReflBEq Nat`
  simp [-BEq.rfl, dropBoolFix_single]

theorem recUnion_opt (rec : Node → Ty → RecRes) (n : Node) (T R : Ty) (l1 l2 : List Leaf)
    (h : (rec n T = .ok ([R], l1) ∧ rec n .null = .ok ([], l2)) ∨
         (rec n T = .ok ([], l1) ∧ rec n .null = .ok ([R], l2))) :
    recUnion rec n [T, .null] = .ok ([R], [okLeaf]) := by
  rcases h with ⟨h1, h2⟩ | ⟨h1, h2⟩
  · exact recUnion_one rec n R _ (forall_mem_pair (Or.inl ⟨_, h1⟩) (Or.inr ⟨_, h2⟩)) ⟨T, .head _, _, h1⟩
  · exact recUnion_one rec n R _ (forall_mem_pair (Or.inr ⟨_, h1⟩) (Or.inl ⟨_, h2⟩)) ⟨.null, by simp, _, h2⟩

/-- the node has the shape the recogniser takes for kind `k` -/
def NodeIs : Node → NK → Prop
  | .scalar t _ _, .str => t = tStr
  | .scalar t _ _, .int => t = tInt
  | .scalar t _ _, .float => t = tFloat
  | .scalar t _ _, .bool => t = tBool
  | .scalar t _ _, .null => t = tNull
  | .seq _ _ _, .seq => True
  | .map _ _ _, .map => True
  | _, _ => False

theorem recScalar_kind (n : Node) (T : Ty) (tag : String) :
    Rejects (recScalar n T tag) ∨ ∃ v m, n = .scalar tag v m := by
  cases n with
  | scalar t v m =>
    by_cases h : t = tag
    · exact Or.inr ⟨v, m, by rw [h]⟩
    · simp only [recScalar, beq_eq_false_iff_ne.mpr h]
      exact Or.inl (rejects_recFail _ _)
  | _ => exact Or.inl ⟨_, rfl⟩

theorem nodeIs_unique {n : Node} {k k' : NK} (h : NodeIs n k) (h' : NodeIs n k') : k = k' := by
  cases n <;> cases k <;> try exact h.elim
  all_goals cases k' <;> try exact h'.elim
  -- left: the same kind twice, or a scalar whose tag would be two different core tags
  all_goals first | exact rfl | exact absurd (h.symm.trans h') (by simp [core_tags])

theorem member_kind (env : Env) (m' : Ty) (k' : NK) (n : Node) (b : Nat) (hm : MemberTy env m' k') :
    Rejects (recognizeReq env (b + 2) n (.ty m')) ∨ NodeIs n k' := by
  have scalar : ∀ {T : Ty} {tag : String} {k : NK}, (∀ v m, NodeIs (.scalar tag v m) k) →
      Rejects (recScalar n T tag) ∨ NodeIs n k := fun hk =>
    (recScalar_kind n _ _).imp_right fun ⟨v, m, e⟩ => e ▸ hk v m
  cases hm with
  | str | path | int | float | bool | null => exact scalar fun _ _ => rfl
  | seq | map => cases n <;> first | exact Or.inr ⟨⟩ | exact Or.inl (rejects_recFail _ _)
  | cls d S =>
    rw [← recognize, recognize_cls S.found]
    cases n with
    | map => exact Or.inr trivial
    | _ =>
      rw [recognizeReq_classes]
      refine Or.inl (recClasses_rejects true S.found (S.noSub ▸ List.forall_mem_nil _) (fun _ => ?_))
      simp only [recUserClass.eq_def, S.recog, S.kind]
      exact rejects_recFail _ _

theorem reject_member (env : Env) (m' : Ty) (k' k : NK) (n : Node) (b : Nat)
    (hm : MemberTy env m' k') (hn : NodeIs n k) (hk : k' ≠ k) :
    Rejects (recognizeReq env (b + 2) n (.ty m')) :=
  (member_kind env m' k' n b hm).resolve_right (fun h => hk (nodeIs_unique h hn))

theorem reject_null (env : Env) (T : Ty) (hnn : NonNullTy env T) (b : Nat) (s : String) (m : Mark) :
    ∃ l, recognizeReq env (b + 2) (.scalar tNull s m) (.ty T) = .ok ([], l) := by
  rcases nonNull_cases hnn with ⟨k, hm, hk⟩ | ⟨d, rfl, S, hkind⟩
  · exact reject_member env T k .null _ b hm rfl hk
  · rw [← recognize, recognize_cls S.found, recognizeReq_classes]
    refine recClasses_rejects true S.found (S.noSub ▸ List.forall_mem_nil _) (fun _ => ?_)
    rcases hkind with ⟨members, hk⟩ | hk <;>
      simp [recUserClass.eq_def, S.recog, hk, core_tags, recFail]

theorem null_rejects (env : Env) (tbl : List Entry) (f : Nat) (rt : Ty → PyVal → Node → Prop)
    (T : Ty) (v : PyVal) (n : Node) (hc : RTcore env tbl f rt T v n) (hnn : NonNullTy env T) (b : Nat) :
    ∃ l, recognizeReq env (b + 1) n (.ty .null) = .ok ([], l) := by
  refine (recScalar_kind n .null tNull).resolve_right ?_
  rintro ⟨s, m, e⟩
  -- `n` would be a null scalar: no shape of a value of such a type is (the type is not `NonNullTy`, the node is
  -- no scalar, or its tag is another core tag)
  cases hc with
  | boolFix | null | date | any => cases hnn
  | seq | map | obj => cases e
  | _ =>
    injection e with e
    simp [core_tags] at e

end YatimlModel.C05
