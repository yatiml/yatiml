import YatimlModel.Lemmas.JsonText
import YatimlModel.Lemmas.JsonRefine
import YatimlModel.Spec.JsonCanon
import YatimlModel.Lemmas.JsonStringLemmas
import YatimlModel.Lemmas.RegexDecide
/-!
# C07 — JSON dumps are valid JSON with the same data under every formatting option

Structural part, for every tree and every configuration (no size bound).  The
scalar texts (`json.dumps`, `str.lower`, verbatim numbers) are parameters of the
model (`TextFns`): every theorem holds for all of them; that the modelled `json.dumps`
returns an RFC 8259 string token, ASCII-only by default, is `C07_dumps_valid_string` / `C07_dumps_ascii`
(that CPython's agrees with the model is the hypothesis `DumpsIs`, compared on every run), that the verbatim numbers are RFC 8259 numbers is
`C07_numbers_are_json` below.
-/
namespace YatimlModel.C07
open YatimlModel.Json YatimlModel.JsonParse

/-- how `Dumper.__init__` sets `_kv_sep` -/
def WfCfg (cfg : Cfg) : Prop := cfg.kvsep = if cfg.indented then ": " else ":"

/-- **Refinement.**  Feeding the machine the events of a whole document, from the initial state,
never raises, returns to the initial stack and writes exactly what the recursive renderer writes. -/
theorem C07_machine_refines_renderer (cfg : Cfg) (t : JT) :
    run cfg init (evDoc t) = some (init, renderDoc cfg t) := by
  have hpre : run cfg init [Ev.other, Ev.other] = some (init, []) := rfl
  -- by evaluation; the `++ []` is what the last step of `run` leaves
  have hsuf : run cfg init [Ev.docEnd, Ev.other] = some (init, endl cfg 0 ++ []) := rfl
  have := run_append (run_append hpre (run_T cfg t JS.none [] 0)) hsuf
  rw [List.append_nil] at this
  exact this

theorem strip_append (a b : List Chunk) : strip (a ++ b) = strip a ++ strip b := by
  induction a with
  | nil => rfl
  | cons c cs ih => cases c <;> simp [strip, ih]

theorem strip_endl (cfg : Cfg) (n : Nat) : strip (endl cfg n) = [] := by
  unfold endl; split <;> rfl

theorem strip_kvsep (cfg : Cfg) (h : WfCfg cfg) : strip [Chunk.punct cfg.kvsep] = [Tok.p ":"] := by
  unfold WfCfg at h
  rw [h]
  -- `-BEq.rfl`: on `": " == ": "` it starts a search for `ReflBEq String`; `String.reduceBEq` decides it
  cases cfg.indented <;> simp [-BEq.rfl, strip]

mutual
theorem strip_rT (cfg : Cfg) (h : WfCfg cfg) : ∀ (t : JT) (ind : Nat),
    strip (rT cfg ind t) = cT cfg.fns t
  | .scalar k v, ind => by simp [rT, cT, strip]
  | .arr xs, ind => by simp [rT, cT, strip, strip_append, strip_endl, strip_rL cfg h xs]
  | .obj kvs, ind => by simp [rT, cT, strip, strip_append, strip_endl, strip_rK cfg h kvs]
theorem strip_rL (cfg : Cfg) (h : WfCfg cfg) : ∀ (xs : JL) (ind : Nat) (first : Bool),
    strip (rL cfg ind first xs) = cL cfg.fns first xs
  | .nil, ind, first => by simp [rL, cL, strip]
  | .cons x xs, ind, first => by
    cases first <;> simp [rL, cL, strip, strip_append, strip_endl, strip_rT cfg h x, strip_rL cfg h xs]
theorem strip_rK (cfg : Cfg) (h : WfCfg cfg) : ∀ (kvs : JKL) (ind : Nat) (first : Bool),
    strip (rK cfg ind first kvs) = cK cfg.fns first kvs
  | .nil, ind, first => by simp [rK, cK, strip]
  | .cons k v rest, ind, first => by
    simp only [rK, cK, strip_append, strip_rT cfg h k, strip_rT cfg h v, strip_rK cfg h rest, strip_kvsep cfg h]
    cases first <;> simp [strip, strip_endl]
end

/-- **Valid JSON, same data under every option.**  What the machine writes for a document is, after
erasing insignificant whitespace, the canonical RFC 8259 token stream of the tree — whatever
`indent` is. -/
theorem C07_emit_is_canonical_json (cfg : Cfg) (h : WfCfg cfg) (t : JT) :
    ∃ out, run cfg init (evDoc t) = some (init, out) ∧ strip out = cT cfg.fns t := by
  refine ⟨renderDoc cfg t, C07_machine_refines_renderer cfg t, ?_⟩
  simp [renderDoc, strip_append, strip_endl, strip_rT cfg h]

/-- two configurations that render scalars alike (same `ensure_ascii`) write the same tokens -/
theorem C07_same_data_all_indents (c1 c2 : Cfg) (h1 : WfCfg c1) (h2 : WfCfg c2)
    (hf : c1.fns = c2.fns) (t : JT) :
    strip (renderDoc c1 t) = strip (renderDoc c2 t) := by
  simp [renderDoc, strip_append, strip_endl, strip_rT c1 h1, strip_rT c2 h2, hf]

def noWs : List Chunk → Bool
  | [] => true
  | .nl _ :: _ => false
  | .punct s :: cs => s != ": " && noWs cs
  | .scal _ :: cs => noWs cs

theorem noWs_of_pieces {cfg : Cfg} (hi : cfg.indented = false) (hk : cfg.kvsep = ":") {ind : Nat} {W : Prop}
    (cs : List Chunk) (h : ∀ c ∈ cs, Piece cfg ind W c) : noWs cs = true := by
  induction cs with
  | nil => rfl
  | cons c cs ih =>
    have hc := h c List.mem_cons_self
    have ih := ih fun d hd => h d (List.mem_cons_of_mem _ hd)
    cases c with
    | nl n => exact nomatch hi.symm.trans hc.1
    | punct s =>
      have : s ≠ ": " := by
        rcases hc with h | h
        · exact fun e => absurd (e ▸ h) (by simp)
        · exact fun e => absurd (e ▸ h.trans hk) (by decide)
      simp [noWs, ih, this]
    | scal s => exact ih

theorem noWs_rL (cfg : Cfg) (hi : cfg.indented = false) (hk : cfg.kvsep = ":") :
    ∀ (xs : JL) (ind : Nat) (first : Bool), noWs (rL cfg ind first xs) = true :=
  fun xs ind first => noWs_of_pieces hi hk _ (piece_rL cfg xs ind first)

theorem noWs_rK (cfg : Cfg) (hi : cfg.indented = false) (hk : cfg.kvsep = ":") :
    ∀ (kvs : JKL) (ind : Nat) (first : Bool), noWs (rK cfg ind first kvs) = true :=
  fun kvs ind first => noWs_of_pieces hi hk _ (piece_rK cfg kvs ind first)

/-- **Compact default.**  With `indent=None` the machine writes no whitespace outside scalars. -/
theorem C07_compact (cfg : Cfg) (h : WfCfg cfg) (hi : cfg.indented = false) (t : JT) :
    noWs (renderDoc cfg t) = true := by
  have hk : cfg.kvsep = ":" := by simpa [WfCfg, hi] using h
  exact noWs_of_pieces hi hk _ (piece_renderDoc cfg t)

def allMul (b : Nat) (l : List Nat) : Prop := ∀ n ∈ l, ∃ k, n = k * b

theorem mem_nlIndents {n : Nat} {cs : List Chunk} (h : n ∈ nlIndents cs) : Chunk.nl n ∈ cs := by
  induction cs with
  | nil => cases h
  | cons c cs ih =>
    cases c with
    | nl m =>
      exact (List.mem_cons.mp h).elim (fun e => e ▸ List.mem_cons_self)
        fun h => List.mem_cons_of_mem _ (ih h)
    | _ => exact List.mem_cons_of_mem _ (ih h)

theorem indents_rL (cfg : Cfg) : ∀ (xs : JL) (d : Nat) (first : Bool),
    allMul cfg.best (nlIndents (rL cfg (d * cfg.best) first xs)) := by
  intro xs d first n hn
  obtain ⟨_, j, e⟩ := piece_rL cfg xs _ first _ (mem_nlIndents hn)
  exact ⟨d + j, by rw [e, Nat.add_mul]⟩

theorem indents_rK (cfg : Cfg) : ∀ (kvs : JKL) (d : Nat) (first : Bool),
    allMul cfg.best (nlIndents (rK cfg (d * cfg.best) first kvs)) := by
  intro kvs d first n hn
  obtain ⟨_, j, e⟩ := piece_rK cfg kvs _ first _ (mem_nlIndents hn)
  exact ⟨d + j, by rw [e, Nat.add_mul]⟩

/-- **Indent shape.**  Every line break the machine writes is followed by a whole multiple of
`best_indent` spaces (the nesting depth of the position). -/
theorem C07_indent_shape (cfg : Cfg) (t : JT) :
    allMul cfg.best (nlIndents (renderDoc cfg t)) := by
  intro n hn
  obtain ⟨_, j, e⟩ := piece_renderDoc cfg t _ (mem_nlIndents hn)
  exact ⟨j, by rw [e, Nat.zero_add]⟩

/-- aliases are refused, never written -/
theorem C07_alias_raises (cfg : Cfg) (st : St) : emit cfg st Ev.alias = none := rfl

/-- **ASCII-only default.**  `json.dumps(s, ensure_ascii=True)` (as modelled and compared with
CPython on every run) writes printable ASCII only, for every string. -/
theorem C07_dumps_ascii (s : List Nat) :
    (JsonString.dumps true s).all JsonString.isAsciiPrintable = true :=
  JsonString.dumps_ascii s

/-- the modelled `json.dumps` always returns an RFC 8259 string token, whatever the content
(quotes, backslashes, control characters, non-BMP characters, lone surrogates) and mode -/
theorem C07_dumps_valid_string (a : Bool) (s : List Nat) :
    JsonString.validJsonString (JsonString.dumps a s) = true :=
  JsonString.dumps_valid a s

section numbers
open YatimlModel.Re

def digit19 : Re := rng '1' '9'
def digit09 : Re := rng '0' '9'
def intPart : Re := alt (ch '0') (cat digit19 (star digit09))
def minus : Re := opt (ch '-')
/-- `str(int)` -/
def pyIntStr : Re := cat minus intPart
/-- PyYAML's `represent_float` of a finite float: `repr(x).lower()`, with `.0` inserted before
the exponent when there is no fraction -/
def reprFloat : Re :=
  cat minus (cat intPart (cat (ch '.') (cat (plus digit09)
    (opt (cat (ch 'e') (cat (set [('+'.toNat, '+'.toNat), ('-'.toNat, '-'.toNat)]) (plus digit09)))))))
/-- RFC 8259 section 6 -/
def jsonNumber : Re :=
  cat minus (cat intPart (cat (opt (cat (ch '.') (plus digit09)))
    (opt (cat (set [('E'.toNat, 'E'.toNat), ('e'.toNat, 'e'.toNat)])
      (cat (opt (set [('+'.toNat, '+'.toNat), ('-'.toNat, '-'.toNat)])) (plus digit09))))))

theorem numbers_covered : covers (alt pyIntStr reprFloat) [jsonNumber] = true := by decide +kernel

/-- the number texts `emit_json` writes verbatim are RFC 8259 numbers -/
theorem C07_numbers_are_json (s : List Nat) (h : rmatch (alt pyIntStr reprFloat) s = true) :
    rmatch jsonNumber s = true := by
  simpa using covers_sound _ _ numbers_covered s h
end numbers

/-! ### non-vacuity: a concrete indented document -/

def idFns : TextFns := { dumps := fun s => "\"" ++ s ++ "\"", lower := fun s => s }
def cfg2 : Cfg := { indented := true, best := 2, kvsep := ": ", fns := idFns }
def sample : JT :=
  .obj (.cons (.scalar .str "a") (.arr (.cons (.scalar .other "1") (.cons (.scalar .null "") .nil)))
       (.cons (.scalar .str "b") (.obj .nil) .nil))

example : WfCfg cfg2 := rfl
example : textOf "\n" (renderDoc cfg2 sample)
    = "{\n  \"a\": [\n    1,\n    null\n  ],\n  \"b\": {\n    \n  }\n}\n" := by decide +kernel
example : (run cfg2 init (evDoc sample)).map (fun r => textOf "\n" r.2)
    = some "{\n  \"a\": [\n    1,\n    null\n  ],\n  \"b\": {\n    \n  }\n}\n" := by decide +kernel
end YatimlModel.C07
