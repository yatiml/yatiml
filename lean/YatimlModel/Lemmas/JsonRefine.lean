import YatimlModel.Model.Json
/-!
The push-down machine refines the recursive renderer: for every tree, every
enclosing stack and every configuration, running the machine over the tree's
events writes exactly what the renderer writes and leaves the stack as it found
it (with the enclosing container's state advanced).
-/
namespace YatimlModel.Json

theorem run_cons {cfg : Cfg} {st : St} {e : Ev} {es : List Ev} {s1 s2 : St} {o1 o2 : List Chunk}
    (he : emit cfg st e = some (s1, o1)) (hr : run cfg s1 es = some (s2, o2)) :
    run cfg st (e :: es) = some (s2, o1 ++ o2) := by
  simp [run, he, hr]

theorem run_append {cfg : Cfg} {a b : List Ev} {st s1 s2 : St} {o1 o2 : List Chunk}
    (ha : run cfg st a = some (s1, o1)) (hb : run cfg s1 b = some (s2, o2)) :
    run cfg st (a ++ b) = some (s2, o1 ++ o2) := by
  fun_induction run cfg st a generalizing o1 <;> cases ha
  · exact hb
  · rename_i hemit _ ih hrun
    rw [List.cons_append, List.append_assoc]
    exact run_cons hemit (ih hrun)

/-- the state on top of the stack inside a sequence, before an item; `first`: nothing has been written yet -/
def topL (first : Bool) : JS := if first then JS.seqFirst else JS.seq
/-- the same inside a mapping, before a key -/
def topK (first : Bool) : JS := if first then JS.mapKeyFirst else JS.mapKey
/-- the state in which the items `xs`, entered in `topL first`, leave the machine -/
def afterL (first : Bool) : JL → JS | .nil => topL first | _ => JS.seq
/-- the state in which the pairs `kvs`, entered in `topK first`, leave it -/
def afterK (first : Bool) : JKL → JS | .nil => topK first | _ => JS.mapKey

mutual
theorem run_T (cfg : Cfg) : ∀ (t : JT) (top : JS) (rest : List JS) (ind : Nat),
    run cfg ⟨top :: rest, ind⟩ (evT t)
      = some (⟨nextOf top :: rest, ind⟩, sepOf cfg ind top ++ rT cfg ind t)
  | .scalar k v, top, rest, ind => by simp [evT, run, emit, rT]
  | .arr xs, top, rest, ind => by
    have := run_cons (cfg := cfg) (st := ⟨top :: rest, ind⟩) (e := .seqStart) rfl
      (run_append (run_L cfg xs true (nextOf top :: rest) (ind + cfg.best))
        (run_cons (e := .seqEnd) (es := []) rfl rfl))
    simpa [evT, rT, List.append_assoc] using this
  | .obj kvs, top, rest, ind => by
    have := run_cons (cfg := cfg) (st := ⟨top :: rest, ind⟩) (e := .mapStart) rfl
      (run_append (run_K cfg kvs true (nextOf top :: rest) (ind + cfg.best))
        (run_cons (e := .mapEnd) (es := []) rfl rfl))
    simpa [evT, rT, List.append_assoc] using this
theorem run_L (cfg : Cfg) : ∀ (xs : JL) (first : Bool) (rest : List JS) (ind : Nat),
    run cfg ⟨topL first :: rest, ind⟩ (evL xs)
      = some (⟨afterL first xs :: rest, ind⟩, rL cfg ind first xs)
  | .nil, first, rest, ind => rfl
  | .cons x xs, first, rest, ind => by
    have hn : nextOf (topL first) = topL false := by cases first <;> rfl
    have ha : afterL false xs = JS.seq := by cases xs <;> rfl
    have := run_append (run_T cfg x (topL first) rest ind) (hn ▸ ha ▸ run_L cfg xs false rest ind)
    cases first <;> exact this
theorem run_K (cfg : Cfg) : ∀ (kvs : JKL) (first : Bool) (rest : List JS) (ind : Nat),
    run cfg ⟨topK first :: rest, ind⟩ (evK kvs)
      = some (⟨afterK first kvs :: rest, ind⟩, rK cfg ind first kvs)
  | .nil, first, rest, ind => rfl
  | .cons k v kvs, first, rest, ind => by
    have hn : nextOf (topK first) = JS.mapValue := by cases first <;> rfl
    have ha : afterK false kvs = JS.mapKey := by cases kvs <;> rfl
    have := run_append (run_T cfg k (topK first) rest ind)
      (hn ▸ run_append (run_T cfg v JS.mapValue rest ind) (ha ▸ run_K cfg kvs false rest ind))
    simp only [rK, List.append_assoc] at this ⊢
    cases first <;> exact this
end

end YatimlModel.Json
