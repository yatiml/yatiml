import YatimlModel.Lemmas.RecFolds
/-!
Recognition does not depend on the order in which classes were registered, nor on the order of the
members of a Union: the *set* of recognised types is the same, and a fatal outcome stays fatal.
-/
namespace YatimlModel

def SameSet (a b : List Ty) : Prop := ∀ t, t ∈ a ↔ t ∈ b

theorem SameSet.symm {a b : List Ty} (h : SameSet a b) : SameSet b a := fun t => (h t).symm

def RRel (r r' : RecRes) : Prop :=
  match r, r' with
  | .ok (ts, _), .ok (ts', _) => SameSet ts ts'
  | .error _, .error _ => True
  | _, _ => False

theorem rrel_ok {ts ts' : List Ty} (ls ls' : List Leaf) (h : SameSet ts ts') : RRel (.ok (ts, ls)) (.ok (ts', ls')) := h

/-- What the proofs carry.  Recognised types never repeat, so this says no more than `RRel`, but lengths, maps
and filters go through core's `List.Perm` lemmas. -/
def PermRel {β : Type} (r r' : Except Fatal (List Ty × β)) : Prop :=
  match r, r' with
  | .ok (ts, _), .ok (ts', _) => ts.Perm ts'
  | .error _, .error _ => True
  | _, _ => False

@[elab_as_elim] theorem PermRel.rec' {β : Type} {P : Except Fatal (List Ty × β) → Except Fatal (List Ty × β) → Prop}
    {r r' : Except Fatal (List Ty × β)} (h : PermRel r r') (herr : ∀ e e', P (.error e) (.error e'))
    (hok : ∀ ts ls ts' ls', ts.Perm ts' → P (.ok (ts, ls)) (.ok (ts', ls'))) : P r r' := by
  unfold PermRel at h
  split at h
  · exact hok _ _ _ _ h
  · exact herr _ _
  · exact h.elim

theorem PermRel.rrel {r r' : RecRes} (h : PermRel r r') : RRel r r' :=
  h.rec' (fun _ _ => trivial) fun _ _ _ _ hp _ => hp.mem_iff

theorem PermRel.refl (r : RecRes) : PermRel r r := by
  cases r with
  | error e => trivial
  | ok o => exact List.Perm.refl o.1

theorem PermRel.symm {r r' : RecRes} (h : PermRel r r') : PermRel r' r :=
  h.rec' (fun _ _ => trivial) fun _ _ _ _ hp => hp.symm

theorem PermRel.singleton {r r' : RecRes} (h : PermRel r r') {R : Ty} {ls : List Leaf}
    (hr : r = .ok ([R], ls)) : ∃ ls', r' = .ok ([R], ls') := by
  revert hr
  refine h.rec' (fun _ _ => nofun) fun _ _ _ ls' hp hr => ?_
  cases hr
  exact ⟨ls', by rw [List.singleton_perm.mp hp]⟩

def AmbRel (amb amb' : Option RecOut) : Prop :=
  (amb = none ∧ amb' = none) ∨ (∃ r r', amb = some r ∧ amb' = some r' ∧ r.1.Perm r'.1)

theorem noteAmb_rel {amb amb' : Option RecOut} (ha : AmbRel amb amb') {ts ts' : List Ty} (wrap : Ty → Ty)
    (ls ls' : List Leaf) (hp : ts.Perm ts') : AmbRel (noteAmb amb ts wrap ls) (noteAmb amb' ts' wrap ls') := by
  rcases ha with ⟨rfl, rfl⟩ | ⟨r, r', rfl, rfl, hr⟩
  · simp only [noteAmb, hp.length_eq]
    split
    · exact Or.inr ⟨_, _, rfl, rfl, hp.map wrap⟩
    · exact Or.inl ⟨rfl, rfl⟩
  · exact Or.inr ⟨r, r', rfl, rfl, hr⟩

theorem recElems_rel {rec rec' : Node → Ty → RecRes} (hcb : ∀ x U, PermRel (rec x U) (rec' x U)) (T : Ty)
    (cs : List ElemCall) {amb amb' : Option RecOut} (ha : AmbRel amb amb') :
    PermRel (recElems rec T amb cs) (recElems rec' T amb' cs) := by
  induction cs generalizing amb amb' with
  | nil =>
    rcases ha with ⟨rfl, rfl⟩ | ⟨r, r', rfl, rfl, hr⟩
    · exact .refl _
    · exact hr
  | cons c rest ih =>
    rw [recElems, recElems]
    refine (hcb c.1 c.2.1).rec' (fun _ _ => trivial) fun ts ls ts' ls' hp => ?_
    dsimp only
    rw [hp.length_eq]
    split
    · exact List.Perm.refl _
    · exact ih (noteAmb_rel ha _ ls ls' hp)

/-! ### unions and subclasses: the collected set depends only on which answers occur -/

def Covers (rs rs' : List RecRes) : Prop := ∀ r ∈ rs, ∃ r' ∈ rs', PermRel r r'

theorem collect_subset {rs rs' : List RecRes} (h : Covers rs rs') {ts ts' : List Ty} {causes causes' : List (List Leaf)}
    (hc : Collected rs ts causes) (hc' : Collected rs' ts' causes') : ∀ t ∈ ts, t ∈ ts' := by
  intro t ht
  obtain ⟨ts1, ls1, hm, ht1⟩ := (hc.mem t).mp ht
  obtain ⟨r', hm', hr⟩ := h _ hm
  rcases r' with e | ⟨ts1', ls1'⟩
  · cases hr
  · exact (hc'.mem t).mpr ⟨ts1', ls1', hm', (List.Perm.mem_iff hr).mp ht1⟩

theorem collect_isOk_of_covers {rs rs' : List RecRes} (h : Covers rs' rs) {ts : List Ty} {causes : List (List Leaf)}
    (hc : Collected rs ts causes) : ∃ a', collect rs' ([], []) = .ok a' := by
  refine collect_isOk _ fun r' hr' => ?_
  obtain ⟨r, hm, hr⟩ := h r' hr'
  obtain ⟨o, rfl⟩ := hc.allOk r hm
  cases r' with
  | error e => cases hr
  | ok o' => exact ⟨o', rfl⟩

theorem collect_rel {rs rs' : List RecRes} (h : Covers rs rs') (h' : Covers rs' rs) :
    PermRel (collect rs ([], [])) (collect rs' ([], [])) := by
  cases hc : collect rs ([], []) with
  | error e =>
    cases hc' : collect rs' ([], []) with
    | error e' => trivial
    | ok a' => obtain ⟨a, ha⟩ := collect_isOk_of_covers h (collect_ok hc'); rw [hc] at ha; cases ha
  | ok a =>
    have c := collect_ok hc
    obtain ⟨a', hc'⟩ := collect_isOk_of_covers h' c
    have c' := collect_ok hc'
    rw [hc']
    exact (List.perm_ext_iff_of_nodup c.nodup c'.nodup).mpr fun t => ⟨collect_subset h c c' t, collect_subset h' c' c t⟩

theorem collect_map_rel {α : Type} {xs xs' : List α} {f f' : α → RecRes} (hx : xs.Perm xs')
    (hf : ∀ x, PermRel (f x) (f' x)) : PermRel (collect (xs.map f) ([], [])) (collect (xs'.map f') ([], [])) := by
  refine collect_rel (fun r hr => ?_) fun r hr => ?_ <;> obtain ⟨x, hx', rfl⟩ := List.mem_map.mp hr
  · exact ⟨f' x, List.mem_map_of_mem (hx.mem_iff.mp hx'), hf x⟩
  · exact ⟨f x, List.mem_map_of_mem (hx.mem_iff.mpr hx'), (hf x).symm⟩

theorem dropBoolFix_perm {a b : List Ty} (h : a.Perm b) : (dropBoolFix a).Perm (dropBoolFix b) := by
  unfold dropBoolFix
  rw [h.contains_eq, h.contains_eq]
  split
  · exact h.filter _
  · exact h

theorem recUnion_rel {rec rec' : Node → Ty → RecRes} (n : Node) {ms ms' : List Ty} (hp : ms.Perm ms')
    (hrel : ∀ m, PermRel (rec n m) (rec' n m)) : PermRel (recUnion rec n ms) (recUnion rec' n ms') := by
  rw [recUnion_eq, recUnion_eq]
  exact (collect_map_rel hp hrel).rec' (fun _ _ => trivial) fun _ _ _ _ hs => dropBoolFix_perm hs

/-! ### one class: custom recognisers and attributes only look at "recognised as something or not" -/

def PRel {α : Type} (r r' : Except Fatal (Option α)) : Prop :=
  match r, r' with
  | .ok a, .ok a' => a.isNone = a'.isNone
  | .error _, .error _ => True
  | _, _ => False

theorem PRel.refl {α : Type} (r : Except Fatal (Option α)) : PRel r r := by
  cases r <;> trivial

@[elab_as_elim] theorem PRel.rec' {α : Type} {P : Except Fatal (Option α) → Except Fatal (Option α) → Prop}
    {r r' : Except Fatal (Option α)} (h : PRel r r') (herr : ∀ e e', P (.error e) (.error e'))
    (hnone : P (.ok none) (.ok none)) (hsome : ∀ a a', P (.ok (some a)) (.ok (some a'))) : P r r' := by
  unfold PRel at h
  split at h
  · next a a' =>
    cases a <;> cases a' <;> cases h
    · exact hnone
    · exact hsome _ _
  · exact herr _ _
  · exact h.elim

theorem reqAttribute_rel {rec rec' : Node → Ty → RecRes} (hcb : ∀ x U, PermRel (rec x U) (rec' x U)) (n : Node)
    (a : String) (ty : Option Ty) : PRel (reqAttribute rec n a ty) (reqAttribute rec' n a ty) := by
  unfold reqAttribute
  split
  · split
    · exact PRel.refl _
    · rename_i v _ _
      split
      · exact PRel.refl _
      · rename_i T
        refine (hcb v T).rec' (fun _ _ => trivial) fun ts ls ts' ls' hp => ?_
        dsimp only
        rw [hp.length_eq]
        split <;> rfl
  · exact PRel.refl _

theorem firstSome_rel {α β : Type} {f f' : β → Except Fatal (Option α)} (xs : List β)
    (h : ∀ x ∈ xs, PRel (f x) (f' x)) : PRel (firstSome (xs.map f)) (firstSome (xs.map f')) := by
  induction xs with
  | nil => rfl
  | cons x xs ih =>
    rw [List.map_cons, List.map_cons]
    exact (h x List.mem_cons_self).rec' (fun _ _ => trivial) (ih (List.forall_mem_cons.mp h).2) fun _ _ => rfl

theorem valueVerdict_rel {rec rec' : Node → Ty → RecRes} (hcb : ∀ x U, PermRel (rec x U) (rec' x U))
    (ps : List (Node × Node)) (ty : Ty) (name : String) :
    PRel (valueVerdict rec ps ty name) (valueVerdict rec' ps ty name) := by
  unfold valueVerdict
  split
  · rename_i v _
    refine (hcb v ty).rec' (fun _ _ => trivial) fun ts ls ts' ls' hp => ?_
    dsimp only
    rw [hp.length_eq]
    split <;> rfl
  · trivial

theorem recAttrs_rel {rec rec' : Node → Ty → RecRes} (hcb : ∀ x U, PermRel (rec x U) (rec' x U)) (n : Node)
    (ps : List (Node × Node)) (params : List Param) : PRel (recAttrs rec n ps params) (recAttrs rec' n ps params) := by
  rw [recAttrs_eq, recAttrs_eq]
  refine firstSome_rel params fun p _ => ?_
  rw [recAttr_eq, recAttr_eq]
  cases NodeOps.hasKey ps p.name with
  | true => exact valueVerdict_rel hcb ps p.ty p.name
  | false =>
    cases NodeOps.hasKey ps (dashed p.name) with
    | true => exact valueVerdict_rel hcb ps p.ty (dashed p.name)
    | false => exact PRel.refl _

theorem recUserClass_rel (env env' : Env) (hext : env'.ext = env.ext) {rec rec' : Node → Ty → RecRes}
    (hcb : ∀ x U, PermRel (rec x U) (rec' x U)) (n : Node) (d : ClassDef) :
    PermRel (recUserClass env rec n d) (recUserClass env' rec' n d) := by
  unfold recUserClass
  rw [hext]
  cases d.recognize with
  | some prog =>
    dsimp only
    rw [runRecProg_eq, runRecProg_eq]
    have hop : ∀ op ∈ prog, PRel (runRecOp env.ext rec n op) (runRecOp env.ext rec' n op) := fun op _ => by
      cases op with
      | requireAttribute a ty => exact reqAttribute_rel hcb n a ty
      | _ => exact PRel.refl _
    exact (firstSome_rel prog hop).rec' (fun _ _ => trivial) (List.Perm.refl _) fun _ _ => List.Perm.refl _
  | none =>
    dsimp only
    cases d.kind with
    | plain =>
      cases n with
      | map t ps mk =>
        dsimp only
        exact (recAttrs_rel hcb (.map t ps mk) ps.toList d.params).rec' (fun _ _ => trivial) (List.Perm.refl _)
          fun _ _ => List.Perm.refl _
      | _ => exact .refl _
    | _ => exact .refl _

theorem finishClasses_rel {env env' : Env} (hb : ∀ t, env'.byTag t = env.byTag t) (n : Node) (top : Bool)
    {ts ts' : List Ty} (causes causes' : List (List Leaf)) (hs : ts.Perm ts') :
    PermRel (finishClasses env n top ts causes) (finishClasses env' n top ts' causes') := by
  have hl := hs.length_eq
  -- `by_cases` would first search for a `Decidable` instance of these implications, which is slow to fail
  rcases Classical.em (ts.length > 1 → ∀ d, env.byTag n.tag = some d → .cls d.name ∉ ts) with hp | hp
  · rcases Classical.em (ts.length = 1 → hasPrefix "tag:yaml.org,2002" n.tag = false →
        ∃ d, env.byTag n.tag = some d ∧ .cls d.name ∈ ts) with hr | hr
    · obtain ⟨_, h, _⟩ := finishClasses_keep top causes hp hr
      obtain ⟨_, h', _⟩ := finishClasses_keep (env := env') top causes'
        (fun hm d hd => mt hs.mem_iff.mpr (hp (hl ▸ hm) d (hb _ ▸ hd)))
        (fun h1 hu => (hr (hl ▸ h1) hu).imp fun d hd => ⟨(hb _).trans hd.1, hs.mem_iff.mp hd.2⟩)
      rw [h, h']; exact hs
    · simp only [Classical.not_imp, not_exists, not_and] at hr
      rw [finishClasses_reject top causes hr.1 hr.2.1 hr.2.2, finishClasses_reject top causes' (hl ▸ hr.1) hr.2.1
        fun d hd => mt hs.mem_iff.mpr (hr.2.2 d (hb _ ▸ hd))]
      exact .refl _
  · simp only [Classical.not_imp, Classical.not_forall, Classical.not_not] at hp
    obtain ⟨hmany, d, hd, hin⟩ := hp
    rw [finishClasses_pick top causes hmany hd hin,
      finishClasses_pick top causes' (hl ▸ hmany) ((hb _).trans hd) (hs.mem_iff.mp hin)]
    exact .refl _

structure EnvPerm (env env' : Env) : Prop where
  perm : env.registered.Perm env'.registered
  names : (env.registered.map (·.name)).Nodup
  ext : env'.ext = env.ext

theorem EnvPerm.find_eq {env env' : Env} (h : EnvPerm env env') (c : String) : env'.find c = env.find c := by
  unfold Env.find
  exact (find_perm c h.perm h.names).symm

theorem EnvPerm.isRegistered_eq {env env' : Env} (h : EnvPerm env env') (c : String) :
    env'.isRegistered c = env.isRegistered c :=
  h.perm.any_eq.symm

theorem EnvPerm.byTag_eq {env env' : Env} (h : EnvPerm env env') (t : String) : env'.byTag t = env.byTag t := by
  unfold Env.byTag
  rw [funext h.find_eq]

theorem EnvPerm.keyTypeOk_eq {env env' : Env} (h : EnvPerm env env') (k : Ty) : keyTypeOk env' k = keyTypeOk env k := by
  unfold keyTypeOk
  rw [funext h.find_eq]

theorem EnvPerm.subclasses {env env' : Env} (h : EnvPerm env env') (c : String) :
    (env.directSubclasses c).Perm (env'.directSubclasses c) := by
  unfold Env.directSubclasses
  exact h.perm.filter _

theorem recClasses_rel {env env' : Env} (h : EnvPerm env env') {rec rec' : Node → Ty → RecRes}
    (hcb : ∀ x U, PermRel (rec x U) (rec' x U)) {recC recC' : ClassDef → RecRes}
    (hC : ∀ s, PermRel (recC s) (recC' s)) (n : Node) (c : String) (top : Bool) :
    PermRel (recClasses env rec recC n c top) (recClasses env' rec' recC' n c top) := by
  rw [recClasses, recClasses, h.find_eq]
  cases env.find c with
  | none => trivial
  | some d =>
    dsimp only
    refine (collect_map_rel (h.subclasses c) hC).rec' (fun _ _ => trivial) fun sub causes sub' causes' hs => ?_
    dsimp only
    rw [← hs.length_eq]
    cases sub.length == 0 with
    | false =>
      rw [if_neg Bool.false_ne_true, if_neg Bool.false_ne_true]
      exact finishClasses_rel h.byTag_eq n top _ _ hs
    | true =>
      rw [if_pos rfl, if_pos rfl]
      cases d.abstract with
      | true =>
        rw [if_pos rfl, if_pos rfl]
        exact finishClasses_rel h.byTag_eq n top _ _ (.refl _)
      | false =>
        rw [if_neg Bool.false_ne_true, if_neg Bool.false_ne_true]
        exact (recUserClass_rel env env' h.ext hcb n d).rec' (fun _ _ => trivial) fun _ _ _ _ gs =>
          finishClasses_rel h.byTag_eq n top _ _ gs

theorem recognizeReq_permRel (env env' : Env) (h : EnvPerm env env') :
    ∀ (fuel : Nat) (n : Node) (q : Req), PermRel (recognizeReq env fuel n q) (recognizeReq env' fuel n q) := by
  intro fuel
  induction fuel with
  | zero => intro n q; rw [recognizeReq_zero, recognizeReq_zero]; trivial
  | succ fuel ih =>
    intro n q
    have hcb := fun x U => ih x (.ty U)
    cases q with
    | ty T =>
      cases T with
      | union ms => exact recUnion_rel n (List.Perm.refl _) fun m => ih n (.ty m)
      | seq k item =>
        rw [recognizeReq_seq, recognizeReq_seq, recList_eq, recList_eq]
        split
        · exact recElems_rel hcb _ _ (Or.inl ⟨rfl, rfl⟩)
        · exact .refl _
      | map k a b =>
        rw [recognizeReq_map, recognizeReq_map, recDict_eq, recDict_eq, h.keyTypeOk_eq]
        cases keyTypeOk env a with
        | false => trivial
        | true =>
          rw [if_pos rfl, if_pos rfl]
          split
          · exact recElems_rel hcb _ _ (Or.inl ⟨rfl, rfl⟩)
          · exact .refl _
      | cls c =>
        rw [recognizeReq_cls, recognizeReq_cls, h.isRegistered_eq]
        split
        · exact ih n (.classes c true)
        · trivial
      | _ => exact .refl _
    | classes c top =>
      rw [recognizeReq_classes, recognizeReq_classes]
      exact recClasses_rel h hcb (fun s => ih n (.classes s.name false)) n c top

/-- **Registration order does not matter.**  For two class tables that hold the same classes (with
distinct names) in a different order, recognition of any node against any type gives the same set of
types, and is fatal for the one exactly when it is fatal for the other. -/
theorem recognizeReq_perm (env env' : Env) (h : EnvPerm env env') :
    ∀ (fuel : Nat) (n : Node) (q : Req), RRel (recognizeReq env fuel n q) (recognizeReq env' fuel n q) :=
  fun fuel n q => (recognizeReq_permRel env env' h fuel n q).rrel

end YatimlModel
