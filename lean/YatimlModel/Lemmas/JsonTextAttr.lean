import Lean.Meta.Tactic.Simp.RegisterCommand
/-- the code points of a chunk list, chunk by chunk, as one right-nested append -/
register_simp_attr json_text
