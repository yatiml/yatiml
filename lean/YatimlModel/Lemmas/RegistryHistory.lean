import YatimlModel.Lemmas.RegistrySafe
/-!
Histories of creating and calling functions: when the checker accepts the programs, the shared base
never changes and every function's own region is what its factory built from the untouched base —
whatever else happened before, between and after.
-/
namespace YatimlModel.Reg

def creates : List Op → List (Name × List Nat)
  | [] => []
  | .create k cs :: rest => (k, cs) :: creates rest
  | .call _ _ :: rest => creates rest

theorem creates_append (a b : List Op) : creates (a ++ b) = creates a ++ creates b := by
  induction a with
  | nil => rfl
  | cons op rest ih => cases op <;> simp [creates, ih]

/-- the function a `create kind cs` gives when nothing else ever happened -/
def Progs.isolated (P : Progs) (c : Name × List Nat) : Fn := P.fnOf c.1 (P.create P.base c.1 c.2)

def opValid (P : Progs) : Op → Prop
  | .create k _ => k ∈ P.kinds
  | .call _ _ => True

structure Inv (P : Progs) (w : World) (cr : List (Name × List Nat)) : Prop where
  bad : w.bad = false
  base : w.base = P.base
  fns : w.fns = cr.map P.isolated
  kinds : ∀ c ∈ cr, c.1 ∈ P.kinds

theorem check_sound (P : Progs) (hc : P.check = true) (c : Name × List Nat) (hk : c.1 ∈ P.kinds) :
    (P.create P.base c.1 c.2).ok = true ∧ ∀ ds, (P.doCall P.base (P.isolated c) ds).ok = true := by
  have h1 := List.all_eq_true.mp hc c.1 hk
  unfold Progs.checkKind at h1
  split at h1
  · cases h1
  · next fs hfs =>
    have h2 := List.all_eq_true.mp h1 _ (explore_sound _ _ fs hfs c.2)
    rw [Bool.and_eq_true] at h2
    refine ⟨h2.1, fun ds => ?_⟩
    have h3 := h2.2
    split at h3
    · cases h3
    · next gs hgs => exact List.all_eq_true.mp h3 _ (explore_sound _ _ gs hgs ds)

/-- A call changes nothing: its function is an isolated one, so the run is clean (`check_sound`), and a clean
run at level 2 leaves levels 0 and 1 as they were (`runProg_frame`). -/
theorem step_call (P : Progs) (hc : P.check = true) {w : World} {cr : List (Name × List Nat)}
    (hi : Inv P w cr) (k : Nat) (ds : List Nat) : P.step w (.call k ds) = w := by
  rw [Progs.step]
  split
  · rfl
  · next f hf =>
    have hf' := hf
    rw [hi.fns, List.getElem?_map] at hf'
    obtain ⟨c, hcr, hfc⟩ := Option.map_eq_some_iff.mp hf'
    have hok : (P.doCall P.base f ds).ok = true :=
      hfc ▸ (check_sound P hc c (hi.kinds c (List.mem_of_getElem? hcr))).2 ds
    have hframe := runProg_frame (P.call f.kind) ds (P.callSt P.base f) hok
    have h0 : (P.doCall P.base f ds).space 0 = P.base := hframe 0 Nat.zero_lt_two
    have h1 : (P.doCall P.base f ds).space 1 = f.region := hframe 1 Nat.one_lt_two
    obtain ⟨hlt, rfl⟩ := List.getElem?_eq_some_iff.mp hf
    rw [hi.base, h0, h1, hok, List.set_getElem_self, ← hi.base, Bool.not_true, Bool.or_false]

theorem step_inv (P : Progs) (hc : P.check = true) {w : World} {cr : List (Name × List Nat)}
    (hi : Inv P w cr) (op : Op) (hv : opValid P op) : Inv P (P.step w op) (cr ++ creates [op]) := by
  cases op with
  | call k ds => rw [step_call P hc hi]; simpa [creates] using hi
  | create k cs =>
    have hok := (check_sound P hc (k, cs) hv).1
    rw [Progs.step, hi.base]
    exact ⟨by rw [hi.bad, hok]; rfl, runProg_frame (P.factory k) cs _ hok 0 Nat.zero_lt_one,
      by simp [hi.fns, creates, Progs.isolated],
      List.forall_mem_append.mpr ⟨hi.kinds, List.forall_mem_singleton.mpr hv⟩⟩

theorem run_inv (P : Progs) (hc : P.check = true) : ∀ (ops : List Op) (w : World)
    (cr : List (Name × List Nat)), Inv P w cr → (∀ op ∈ ops, opValid P op) →
    Inv P (P.run w ops) (cr ++ creates ops) := by
  intro ops
  induction ops with
  | nil =>
    intro w cr hi _
    rwa [creates, List.append_nil]
  | cons op rest ih =>
    intro w cr hi hv
    rw [List.forall_mem_cons] at hv
    have := ih _ _ (step_inv P hc hi op hv.1) hv.2
    rwa [List.append_assoc, ← creates_append] at this

theorem run_inv0 (P : Progs) (hc : P.check = true) (ops : List Op) (hv : ∀ op ∈ ops, opValid P op) :
    Inv P (P.run P.world0 ops) (creates ops) :=
  run_inv P hc ops P.world0 [] ⟨rfl, rfl, rfl, fun _ h => nomatch h⟩ hv

end YatimlModel.Reg
