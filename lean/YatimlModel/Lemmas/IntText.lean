import YatimlModel.Model.Scalars
/-!
`construct_yaml_int` reads the decimal text of an integer (`str(i)`, what `represent_int` writes) back as
that integer.  On decimal digits `int()` (`digitsVal 10`) is core's `Nat.ofDigitChars`, whose inverse to
`Nat.toDigits` core proves.
-/
namespace YatimlModel

theorem isDigit_toNat (c : Char) (h : c.isDigit = true) : 48 ≤ c.toNat ∧ c.toNat ≤ 57 := by
  simpa [Char.isDigit, UInt32.le_iff_toNat_le] using h

theorem isDigit_ne {c k : Char} (h : c.isDigit = true) (hk : k.isDigit = false) : c ≠ k :=
  fun e => by rw [e, hk] at h; cases h

theorem head_toDigits_ne_zero : ∀ (n : Nat), 0 < n → ∀ c rest, Nat.toDigits 10 n = c :: rest → c ≠ '0' := by
  intro n
  induction n using Nat.strongRecOn with
  | _ n ih =>
    intro hn c rest h
    obtain hlt | hge := Nat.lt_or_ge n 10
    · rw [Nat.toDigits_of_lt_base hlt] at h
      cases h
      exact fun hc => absurd (Nat.digitChar_eq_zero.mp hc) (Nat.ne_of_gt hn)
    · obtain ⟨c', rest', hd⟩ := List.exists_cons_of_ne_nil (Nat.toDigits_ne_nil (b := 10) (n := n / 10))
      rw [Nat.toDigits_of_base_le (by decide) hge, hd] at h
      cases h
      exact ih (n / 10) (Nat.div_lt_self hn (by decide)) (Nat.div_pos hge (by decide)) c rest' hd

theorem digitsVal_dec (l : List Char) (acc : Nat) (h : ∀ c ∈ l, c.isDigit = true) :
    digitsVal 10 l acc = some (Nat.ofDigitChars 10 l acc) := by
  induction l generalizing acc with
  | nil => rfl
  | cons c l ih =>
    have hc := isDigit_toNat c (h c List.mem_cons_self)
    have hv : digitVal c = some (c.toNat - 48) := if_pos ⟨hc.1, hc.2⟩
    unfold digitsVal
    rw [hv, Nat.ofDigitChars_cons, ← ih _ fun x hx => h x (List.mem_cons_of_mem _ hx), Nat.mul_comm]
    exact if_pos (Nat.sub_lt_left_of_lt_add hc.1 (Nat.lt_succ_of_le hc.2))

theorem stripSpace_dec (l : List Char) (h : ∀ c ∈ l, c.isDigit = true) : stripSpace l = l := by
  have hd : ∀ l : List Char, (∀ c ∈ l, c.isDigit = true) → l.dropWhile isPySpace = l := fun l h => by
    cases l with
    | nil => rfl
    | cons c r =>
      have hne := fun k hk => beq_eq_false_iff_ne.mpr (isDigit_ne (k := k) (h c List.mem_cons_self) hk)
      have : isPySpace c = false := by
        rw [isPySpace, hne ' ' rfl, hne '\t' rfl, hne '\n' rfl, hne '\r' rfl, hne '\x0b' rfl, hne '\x0c' rfl]
        rfl
      simp [List.dropWhile, this]
  rw [stripSpace, hd l h, hd l.reverse fun c hc => h c (List.mem_reverse.mp hc), List.reverse_reverse]

theorem dropBasePrefix_ten (l : List Char) : dropBasePrefix 10 l = l := by
  unfold dropBasePrefix
  split <;> rfl

theorem sign_match (c : Char) (r : List Char) (hminus : c ≠ '-') (hplus : c ≠ '+') :
    (match c :: r with
      | '-' :: r => (true, r)
      | '+' :: r => (false, r)
      | r => (false, r)) = (false, c :: r) := by
  split
  · rename_i heq; simp only [List.cons.injEq] at heq; exact absurd heq.1 hminus
  · rename_i heq; simp only [List.cons.injEq] at heq; exact absurd heq.1 hplus
  · rfl

theorem pyInt_dec (c : Char) (r : List Char) (h : ∀ x ∈ c :: r, x.isDigit = true) :
    pyInt 10 (c :: r) = some (Nat.ofDigitChars 10 (c :: r) 0 : Int) := by
  have hne := fun k => isDigit_ne (k := k) (h c List.mem_cons_self)
  unfold pyInt
  rw [stripSpace_dec _ h]
  simp [hne '-' rfl, hne '+' rfl, dropBasePrefix_ten, digitsVal_dec _ 0 h]

/-- `construct_yaml_int` on the decimal digits of a positive number, with or without a leading `-`: no `_`,
not the numeral `0`, no leading zero (so no octal / hex / binary reading), no `:` -/
theorem constructInt_digits (neg : Bool) (n : Nat) (hn : 0 < n) (s : String)
    (hs : s.toList = (if neg then '-' :: Nat.toDigits 10 n else Nat.toDigits 10 n)) :
    constructInt s = some (if neg then -(n : Int) else n) := by
  have hval := Nat.ofDigitChars_ten_toDigits (n := n)
  cases hd : Nat.toDigits 10 n with
  | nil => exact absurd hd Nat.toDigits_ne_nil
  | cons c r =>
    rw [hd] at hs hval
    have hall : ∀ x ∈ c :: r, x.isDigit = true := fun x hx =>
      Nat.isDigit_of_mem_toDigits (n := n) (by decide) (by decide) (hd ▸ hx)
    have hne := fun k => isDigit_ne (k := k) (hall c List.mem_cons_self)
    have hc0 : ∀ t, c :: r ≠ '0' :: t := fun t e => head_toDigits_ne_zero n hn c r hd (List.cons.inj e).1
    have hfilter : (c :: r).filter (· != '_') = c :: r :=
      List.filter_eq_self.mpr fun x hx => bne_iff_ne.mpr (isDigit_ne (hall x hx) rfl)
    have hcolon : (c :: r).contains ':' = false :=
      Bool.eq_false_iff.mpr fun hcon => isDigit_ne (hall ':' (List.contains_iff_mem.mp hcon)) rfl rfl
    unfold constructInt
    -- The sign and the `_` filter leave `c :: r` in both cases.  Of the `match` of `constructInt` on it, the `0b`,
    -- `0x` and `0…` arms need `c = '0'` (`hc0` refutes them), the `[]` arm no digit at all; the last arm is the
    -- decimal reading.  All in one pass: each further pass over that `match` on character patterns costs as much again.
    cases neg <;>
      simp only [hs, Bool.false_eq_true, ↓reduceIte, hfilter, List.filter_cons, Char.reduceBNe, List.tail_cons,
        Char.reduceBEq, Bool.or_true, Bool.or_eq_true, beq_iff_eq, hne '+' rfl, hne '-' rfl, or_self,
        hc0, imp_self, implies_true, hcolon, pyInt_dec c r hall, hval, Option.map_some, Int.one_mul, Int.neg_mul]

theorem constructInt_int : ∀ (i : Int), constructInt (toString i) = some i
  | .ofNat 0 => by decide
  | .ofNat (k + 1) => constructInt_digits false (k + 1) k.succ_pos _ Nat.toList_repr
  | .negSucc m => constructInt_digits true (m + 1) m.succ_pos _ (by simp [toString, Int.repr, Nat.toList_repr])

end YatimlModel
