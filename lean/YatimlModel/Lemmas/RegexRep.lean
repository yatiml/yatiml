import YatimlModel.Lemmas.RegexBeq
/-!
Character-class representatives: a derivative w.r.t. `c` only depends on the
position of `c` relative to the range boundaries occurring in the regex.
-/
namespace YatimlModel
open Re

/-- the largest element of `0 :: bs` that is at most `c`: with `bs` the range boundaries, the least character
of `c`'s class -/
def rep' : List Nat → Nat → Nat
  | [], _ => 0
  | b :: bs, c => if b ≤ c ∧ rep' bs c ≤ b then b else rep' bs c

theorem rep'_le (bs : List Nat) (c : Nat) : rep' bs c ≤ c := by
  fun_induction rep' bs c with
  | case1 => exact Nat.zero_le _
  | case2 b bs c h _ => exact h.1
  | case3 b bs c _ ih => exact ih

theorem rep'_ge (bs : List Nat) (c b : Nat) (hb : b ∈ bs) (hc : b ≤ c) : b ≤ rep' bs c := by
  fun_induction rep' bs c with
  | case1 => cases hb
  | case2 x xs c hx ih => exact (List.mem_cons.mp hb).elim Nat.le_of_eq fun h => Nat.le_trans (ih h hc) hx.2
  | case3 x xs c hx ih =>
    exact (List.mem_cons.mp hb).elim (fun e => Nat.le_of_not_le fun h => hx ⟨e ▸ hc, e ▸ h⟩) (ih · hc)

theorem rep'_mem (bs : List Nat) (c : Nat) : rep' bs c ∈ 0 :: bs := by
  fun_induction rep' bs c
  · exact List.mem_cons_self
  · exact List.mem_cons_of_mem _ List.mem_cons_self
  · rename_i ih
    simp only [List.mem_cons] at ih ⊢
    exact ih.imp_right .inr

theorem range_rep {bs : List Nat} {lo hi : Nat} (c : Nat) (hlo : lo ∈ bs) (hhi : hi + 1 ∈ bs) :
    (decide (lo ≤ c) && decide (c ≤ hi)) = (decide (lo ≤ rep' bs c) && decide (rep' bs c ≤ hi)) := by
  have h1 := rep'_le bs c
  have h2 := rep'_ge bs c
  rw [Bool.eq_iff_iff]
  simp only [Bool.and_eq_true, decide_eq_true_eq]
  exact ⟨fun h => ⟨h2 lo hlo h.1, Nat.le_trans h1 h.2⟩, fun h => ⟨Nat.le_trans h.1 h1,
    Nat.not_lt.mp fun hlt => Nat.not_succ_le_self _ (Nat.le_trans (h2 _ hhi hlt) h.2)⟩⟩

theorem cset_mem_rep {bs : List Nat} {cs : CSet} (c : Nat)
    (h : ∀ p ∈ cs, p.1 ∈ bs ∧ p.2 + 1 ∈ bs) : cs.mem c = cs.mem (rep' bs c) := by
  induction cs with
  | nil => rfl
  | cons p ps ih =>
    have h := List.forall_mem_cons.mp h
    simp only [CSet.mem, List.any_cons, ble_dec] at ih ⊢
    rw [ih h.2, range_rep c h.1.1 h.1.2]

theorem bounds_set {cs : CSet} {bs : List Nat} (h : ∀ b ∈ bounds (Re.set cs), b ∈ bs) :
    ∀ p ∈ cs, p.1 ∈ bs ∧ p.2 + 1 ∈ bs := by
  induction cs with
  | nil => exact List.forall_mem_nil _
  | cons q qs ih =>
    simp only [bounds, List.foldr_cons, List.forall_mem_cons] at h ⊢
    exact ⟨⟨h.1, h.2.1⟩, ih h.2.2⟩

theorem deriv_rep (bs : List Nat) (c : Nat) (r : Re) (h : ∀ b ∈ bounds r, b ∈ bs) :
    deriv c r = deriv (rep' bs c) r := by
  induction r with
  | set cs => simp only [deriv, cset_mem_rep c (bounds_set h)]
  | cat a b iha ihb | alt a b iha ihb =>
    have h := List.forall_mem_append.mp h
    simp only [deriv, iha h.1, ihb h.2]
  | star a iha => simp only [deriv, iha h]
  | _ => rfl

end YatimlModel
