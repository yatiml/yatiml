import YatimlModel.Lemmas.RegexDecide
/-!
Statements about one resolver table as problems for the reflective check, with the table cut down first.
Entries that cannot influence whether the table resolves to a given tag `T` are dropped before the
(expensive) check: an entry with another tag only matters if a later entry with tag `T` can apply to
the same string.  Where only the strings a guard matches are concerned, what is left is restricted to the
characters of the member of the guard concerned (`restrictTbl`).
-/
namespace YatimlModel
open Re

def Key.compat : Key → Key → Bool
  | .wild, _ => true
  | _, .wild => true
  | .empty, .empty => true
  | .ch a, .ch b => a == b
  | _, _ => false

theorem Key.compat_of_admits (k1 k2 : Key) (s : List Nat)
    (h1 : k1.admits s = true) (h2 : k2.admits s = true) : k1.compat k2 = true := by
  cases k1 <;> cases k2 <;> first | rfl | cases s <;> simp_all [Key.admits, Key.compat]

def prune (T : RTag) : List Entry → List Entry
  | [] => []
  | e :: es =>
    if e.tag == T || es.any (fun i => i.tag == T && e.key.compat i.key) then e :: prune T es
    else prune T es

def resolveIs (T : RTag) (tbl : List Entry) (s : List Nat) : Bool := resolve tbl s == T

theorem resolve_entry (e : Entry) (es : List Entry) (s : List Nat) :
    resolve (e :: es) s = if e.matches s then e.tag else resolve es s := by
  rw [resolve, List.find?_cons]
  cases e.matches s <;> rfl

theorem resolveIs_cons (T : RTag) (e : Entry) (es : List Entry) (s : List Nat) :
    resolveIs T (e :: es) s = if e.matches s then e.tag == T else resolveIs T es s := by
  rw [resolveIs, resolve_entry]
  cases e.matches s <;> rfl

theorem resolve_cases (tbl : List Entry) (s : List Nat) :
    (∃ e ∈ tbl, e.matches s = true ∧ resolve tbl s = e.tag) ∨
    ((∀ e ∈ tbl, e.matches s = false) ∧ resolve tbl s = tagStr) := by
  unfold resolve
  cases h : tbl.find? (fun e => e.matches s) with
  | some e => exact Or.inl ⟨e, List.mem_of_find?_eq_some h, by simpa using List.find?_some h, rfl⟩
  | none => exact Or.inr ⟨by simpa only [List.find?_eq_none, Bool.not_eq_true] using h, rfl⟩

theorem resolveIs_true_ex {T : RTag} (hT : (tagStr == T) = false) {es : List Entry} {s : List Nat}
    (h : resolveIs T es s = true) : ∃ i ∈ es, (i.tag == T) = true ∧ i.matches s = true := by
  rw [resolveIs] at h
  rcases resolve_cases es s with ⟨e, he, hm, hr⟩ | ⟨_, hr⟩
  · exact ⟨e, he, hr ▸ h, hm⟩
  · rw [hr, hT] at h; cases h

theorem prune_sound {T : RTag} (hT : (tagStr == T) = false) (tbl : List Entry) (s : List Nat) :
    resolveIs T (prune T tbl) s = resolveIs T tbl s := by
  fun_induction prune T tbl with
  | case1 => rfl
  | case2 e es _ ih => rw [resolveIs_cons, resolveIs_cons, ih]
  | case3 e es hdrop ih =>
    simp only [Bool.or_eq_true, not_or, Bool.not_eq_true, List.any_eq_false, Bool.and_eq_true] at hdrop
    rw [resolveIs_cons, ih, hdrop.1]
    split
    · -- a later entry with tag `T` that matches `s` would share `e`'s bucket
      rename_i hm
      refine Bool.eq_false_iff.mpr fun hr => ?_
      obtain ⟨i, hi, h1, h2⟩ := resolveIs_true_ex hT hr
      simp only [Entry.matches, Bool.and_eq_true] at hm h2
      exact hdrop.2 i hi ⟨h1, Key.compat_of_admits _ _ s hm.1 h2.1⟩
    · rfl

/-- Only the first entry with tag `T` in each bucket; `seen` holds the buckets that had one.  When
the claim is "resolves to `T`", leaving out entries with tag `T` can only make it harder; what it buys
is that `prune` then drops whatever stood between the first such entry and the later ones. -/
def firstOnly (T : RTag) : List Key → List Entry → List Entry
  | _, [] => []
  | seen, e :: es =>
    if e.tag == T then
      if seen.contains e.key then firstOnly T seen es else e :: firstOnly T (e.key :: seen) es
    else e :: firstOnly T seen es

theorem resolveIs_of_firstOnly {T : RTag} {tbl : List Entry} {s : List Nat} :
    ∀ seen, resolveIs T (firstOnly T seen tbl) s = true → resolveIs T tbl s = true := by
  intro seen
  fun_induction firstOnly T seen tbl with
  | case1 => exact id
  | case2 seen e es ht _ ih =>
    rw [resolveIs_cons]
    cases e.matches s
    · exact ih
    · exact fun _ => ht
  | case3 seen e es _ _ ih | case4 seen e es _ ih =>
    rw [resolveIs_cons, resolveIs_cons]
    cases e.matches s
    · exact ih
    · -- `exact id` alone leaves the two tests to the unifier, which is slow
      rw [if_pos rfl, if_pos rfl]
      exact id

def restrictTbl (A : CSet) (tbl : List Entry) : List Entry := tbl.map fun e => { e with re := e.re.restrict A }

theorem resolve_restrictTbl {A : CSet} {s : List Nat} (hs : ∀ c ∈ s, A.mem c = true) (tbl : List Entry) :
    resolve (restrictTbl A tbl) s = resolve tbl s := by
  induction tbl with
  | nil => rfl
  | cons e es ih =>
    rw [restrictTbl, List.map_cons, resolve_entry, resolve_entry, ← ih, Entry.matches, Entry.matches,
      rmatch_restrict e.re hs]
    rfl

/-! ### a table that is one expression under the buckets of its first characters

PyYAML files a resolver under the characters its strings can start with; where nothing else shares those
buckets the index is redundant: the table resolves to `T` exactly what the expression matches
(`resolveIs_uniform`), and "exactly the strings of a specification" is then the equivalence of two
expressions — one exploration from the start, where the general check explores one automaton per bucket
and pays for a boundary per bucket key. -/

/-- every string `r` matches starts with a character that one of the buckets admits -/
def firstsCovered (r : Re) (tbl : List Entry) : Bool :=
  let bs := distinctNats (bounds r ++ keyBounds tbl)
  !nullable r && keysOk bs tbl && boundsOk bs [r] &&
    (0 :: bs).all fun c => tbl.any (·.key.admitsHead c) || isDead (deriv c r)

theorem firstsCovered_sound {r : Re} {tbl : List Entry} (h : firstsCovered r tbl = true) {s : List Nat}
    (hm : rmatch r s = true) : ∃ e ∈ tbl, e.key.admits s = true := by
  simp only [firstsCovered, Bool.and_eq_true, Bool.not_eq_true', List.all_eq_true, Bool.or_eq_true,
    List.any_eq_true] at h
  obtain ⟨⟨⟨hn, hk⟩, hb⟩, hall⟩ := h
  cases s with
  | nil => rw [rmatch_nil, hn] at hm; cases hm
  | cons c w =>
    rcases hall _ (rep'_mem _ c) with ⟨e, he, ha⟩ | hd
    · exact ⟨e, he, by rw [admits_cons, admitsHead_rep _ e.key c (List.all_eq_true.mp hk e he), ha]⟩
    · rw [rmatch_cons, boundsOk_deriv hb (List.mem_singleton_self r) c, rmatch_of_isDead hd] at hm
      cases hm

def uniform (T : RTag) (r : Re) (tbl : List Entry) : Bool :=
  tbl.all (fun e => e.tag == T && e.re == r) && firstsCovered r tbl

theorem resolveIs_uniform {T : RTag} (hT : (tagStr == T) = false) {r : Re} {tbl : List Entry}
    (h : uniform T r tbl = true) (s : List Nat) : resolveIs T tbl s = rmatch r s := by
  simp only [uniform, Bool.and_eq_true, List.all_eq_true] at h
  -- with one tag throughout, the table resolves to it as soon as some entry matches
  have hany : ∀ es : List Entry, (∀ e ∈ es, (e.tag == T) = true) → resolveIs T es s = es.any (·.matches s) := by
    intro es hes
    induction es with
    | nil => exact hT
    | cons e es ih =>
      have := List.forall_mem_cons.mp hes
      rw [resolveIs_cons, List.any_cons, ih this.2, this.1]
      cases e.matches s <;> rfl
  rw [hany tbl fun e he => (h.1 e he).1]
  cases hm : rmatch r s
  · exact List.any_eq_false.mpr fun e he => by
      rw [Entry.matches, eq_of_beq (h.1 e he).2, hm, Bool.and_false]
      exact Bool.false_ne_true
  · obtain ⟨e, he, ha⟩ := firstsCovered_sound h.2 hm
    exact List.any_eq_true.mpr ⟨e, he, by rw [Entry.matches, ha, eq_of_beq (h.1 e he).2, hm]; rfl⟩

/-- `tbl` resolves exactly the strings `spec` matches to `T`: by the equivalence of expressions where the
table, cut down, is uniform, else by the general check -/
def resolvesIff (tbl : List Entry) (T : RTag) (spec : Re) : Bool :=
  (match prune T tbl with
    | e :: es => uniform T e.re (e :: es) && equiv e.re spec
    | [] => false) ||
  Prob.ok { tbls := [prune T tbl], specs := [spec],
            good := fun ts bits => match ts, bits with | [t], [b] => (t == T) == b | _, _ => false }

theorem resolvesIff_sound {tbl : List Entry} {T : RTag} (hT : (tagStr == T) = false) {spec : Re}
    (h : resolvesIff tbl T spec = true) (s : List Nat) :
    (resolve tbl s == T) = rmatch spec s := by
  rw [← resolveIs, ← prune_sound hT]
  rcases Bool.or_eq_true_iff.mp h with h | h
  · split at h
    · rw [Bool.and_eq_true] at h
      rw [‹prune T tbl = _›, resolveIs_uniform hT h.1, equiv_sound h.2]
    · cases h
  · have := Prob.check_sound _ _ h s
    simp only [List.map_cons, List.map_nil] at this
    exact beq_iff_eq.mp this

/-- `tbl` resolves every string `guard` matches to `T`; where the automaton is explored, the table is restricted
to the characters of the member of the guard concerned -/
def resolvesTo (tbl : List Entry) (T : RTag) (guard : Re) : Bool :=
  forallMatches guard (fun w => resolve tbl w == T) fun g => GProb.ok
    { guard := g,
      base := { tbls := [restrictTbl g.alphabet (prune T (firstOnly T [] tbl))], specs := [],
                good := fun ts _ => match ts with | [t] => t == T | _ => false } }

theorem resolvesTo_sound {tbl : List Entry} {T : RTag} (hT : (tagStr == T) = false) {guard : Re}
    (h : resolvesTo tbl T guard = true) (s : List Nat) (hm : rmatch guard s = true) :
    resolve tbl s = T := by
  refine eq_of_beq (forallMatches_sound h (fun g hg s hm => ?_) hm)
  have := GProb.check_sound _ _ hg s hm
  simp only [List.map_cons, List.map_nil] at this
  rw [resolve_restrictTbl (rmatch_alphabet hm), ← resolveIs, prune_sound hT] at this
  exact resolveIs_of_firstOnly [] this

end YatimlModel
