import YatimlModel.Lemmas.RecFolds
/-!
Registering an additional, unrelated class does not change what a node is recognised as (C13).

"Unrelated": the class has a new name, is not derived from a registered class, and no registered
class mentions it in a parameter type or in a custom recogniser.  The node must not be tagged with the
new class (a tag `!New` is a way of *asking* for it).
-/
namespace YatimlModel

mutual
def TagFree (t : String) : Node → Prop
  | .scalar tg _ _ => tg ≠ t
  | .seq tg xs _ => tg ≠ t ∧ TagFreeL t xs
  | .map tg ps _ => tg ≠ t ∧ TagFreeP t ps
def TagFreeL (t : String) : Nodes → Prop
  | .nil => True
  | .cons x xs => TagFree t x ∧ TagFreeL t xs
def TagFreeP (t : String) : Pairs → Prop
  | .nil => True
  | .cons k v r => TagFree t k ∧ TagFree t v ∧ TagFreeP t r
end

theorem tagFreeL_iff (t : String) : ∀ (xs : Nodes), TagFreeL t xs ↔ ∀ x ∈ xs.toList, TagFree t x
  | .nil => iff_of_true trivial nofun
  | .cons _ xs => (and_congr_right' (tagFreeL_iff t xs)).trans List.forall_mem_cons.symm

theorem tagFreeP_iff (t : String) : ∀ (ps : Pairs), TagFreeP t ps ↔ ∀ p ∈ ps.toList, TagFree t p.1 ∧ TagFree t p.2
  | .nil => by simp [TagFreeP, Pairs.toList]
  | .cons k v r => by rw [TagFreeP, Pairs.toList, List.forall_mem_cons, tagFreeP_iff t r, and_assoc]

theorem tagFree_tag (t : String) (n : Node) (h : TagFree t n) : n.tag ≠ t := by
  cases n with
  | scalar _ _ _ => exact h
  | seq _ _ _ => exact h.1
  | map _ _ _ => exact h.1

mutual
def NoU (u : String) : Ty → Prop
  | .cls c => c ≠ u
  | .union ms => NoUL u ms
  | .seq _ i => NoU u i
  | .map _ k v => NoU u k ∧ NoU u v
  | _ => True
def NoUL (u : String) : Tys → Prop
  | .nil => True
  | .cons t ts => NoU u t ∧ NoUL u ts
end

theorem noUL_mem (u : String) : ∀ (ms : Tys), NoUL u ms → ∀ m ∈ ms.toList, NoU u m
  | .nil => fun _ _ => nofun
  | .cons t ts => fun h m hm => by
    rcases List.mem_cons.mp hm with rfl | hm
    · exact h.1
    · exact noUL_mem u ts h.2 m hm

theorem tagFree_items {t : String} {n : Node} (h : TagFree t n) : ∀ x ∈ n.items, TagFree t x := by
  cases n with
  | seq _ xs _ => exact (tagFreeL_iff t xs).mp h.2
  | _ => exact fun _ hx => nomatch hx

theorem tagFree_pairs {t : String} {n : Node} (h : TagFree t n) : ∀ p ∈ n.pairs, TagFree t p.1 ∧ TagFree t p.2 := by
  cases n with
  | map _ ps _ => exact (tagFreeP_iff t ps).mp h.2
  | _ => exact fun _ hp => nomatch hp

/-! ### a class only asks its call-back about the values of the mapping -/

theorem valueVerdict_congr {rec rec' : Node → Ty → RecRes} {ps : List (Node × Node)} {ty : Ty} (name : String)
    (h : ∀ p ∈ ps, rec' p.2 ty = rec p.2 ty) : valueVerdict rec' ps ty name = valueVerdict rec ps ty name := by
  unfold valueVerdict
  split
  · rename_i v hv
    obtain ⟨q, hq, rfl⟩ := List.mem_map.mp (mem_of_valuesOf hv)
    rw [h q hq]
  · rfl

theorem recAttrs_congr {rec rec' : Node → Ty → RecRes} (n : Node) {ps : List (Node × Node)} {params : List Param}
    (h : ∀ q ∈ params, ∀ p ∈ ps, rec' p.2 q.ty = rec p.2 q.ty) :
    recAttrs rec' n ps params = recAttrs rec n ps params := by
  rw [recAttrs_eq, recAttrs_eq]
  refine congrArg firstSome (List.map_congr_left fun q hq => ?_)
  rw [recAttr_eq, recAttr_eq, valueVerdict_congr _ (h q hq), valueVerdict_congr _ (h q hq)]

theorem runRecProg_congr (ext : Ext) {rec rec' : Node → Ty → RecRes} {n : Node} {prog : List RecOp}
    (h : ∀ a T, RecOp.requireAttribute a (some T) ∈ prog → ∀ p ∈ n.pairs, rec' p.2 T = rec p.2 T) :
    runRecProg ext rec' n prog = runRecProg ext rec n prog := by
  rw [runRecProg_eq, runRecProg_eq]
  refine congrArg firstSome (List.map_congr_left fun op hop => ?_)
  cases op with
  | requireAttribute a ty =>
    cases ty with
    | none => cases n <;> rfl
    | some T =>
      cases n with
      | map t ps m =>
        dsimp only [runRecOp, reqAttribute]
        split
        · rfl
        · rename_i v _ hv
          obtain ⟨q, hq, rfl⟩ := List.mem_map.mp (mem_of_valuesOf hv)
          rw [h a T hop q hq]
      | _ => rfl
  | _ => rfl

theorem recUserClass_congr {env env' : Env} {rec rec' : Node → Ty → RecRes} {n : Node} {d : ClassDef}
    (hext : env'.ext = env.ext)
    (hprog : ∀ prog, d.recognize = some prog → runRecProg env.ext rec' n prog = runRecProg env.ext rec n prog)
    (hattrs : recAttrs rec' n n.pairs d.params = recAttrs rec n n.pairs d.params) :
    recUserClass env' rec' n d = recUserClass env rec n d := by
  unfold recUserClass
  cases hr : d.recognize with
  | some prog => simp only [hext, hprog prog hr]
  | none =>
    cases d.kind with
    | plain =>
      cases n with
      | map t ps m => rw [Node.pairs] at hattrs; simp only [hattrs]
      | _ => rfl
    | _ => rfl

def Env.plus (env : Env) (d : ClassDef) : Env := { env with registered := env.registered ++ [d] }

structure Unrelated (env : Env) (d : ClassDef) : Prop where
  fresh : env.isRegistered d.name = false
  noBase : ∀ c, env.isRegistered c = true → d.bases.contains c = false
  params : ∀ e ∈ env.registered, ∀ p ∈ e.params, NoU d.name p.ty
  hooks : ∀ e ∈ env.registered, ∀ prog, e.recognize = some prog →
    ∀ a T, RecOp.requireAttribute a (some T) ∈ prog → NoU d.name T

theorem find_plus (env : Env) (d : ClassDef) (c : String) (h : c ≠ d.name) : (env.plus d).find c = env.find c := by
  have : (d.name == c) = false := beq_false_of_ne fun e => h e.symm
  simp [Env.find, Env.plus, List.find?_append, this]

theorem isRegistered_plus (env : Env) (d : ClassDef) (c : String) (h : c ≠ d.name) :
    (env.plus d).isRegistered c = env.isRegistered c := by
  rw [isRegistered_eq, isRegistered_eq, find_plus env d c h]

theorem byTag_plus (env : Env) (d : ClassDef) (t : String) (h : t ≠ "!" ++ d.name) :
    (env.plus d).byTag t = env.byTag t := by
  unfold Env.byTag
  split
  · rename_i hp
    exact find_plus env d _ fun he => h (by rw [bang_of_prefix t hp, he])
  · rfl

theorem directSubclasses_plus (env : Env) (d : ClassDef) (hu : Unrelated env d) (c : String)
    (hc : env.isRegistered c = true) : (env.plus d).directSubclasses c = env.directSubclasses c := by
  unfold Env.directSubclasses Env.plus
  have : d.bases.contains c = false := hu.noBase c hc
  simp only [List.filter_append, List.filter_cons, this, Bool.false_eq_true, ↓reduceIte, List.filter_nil,
    List.append_nil]

theorem keyTypeOk_plus (env : Env) (d : ClassDef) (k : Ty) (h : NoU d.name k) :
    keyTypeOk (env.plus d) k = keyTypeOk env k := by
  unfold keyTypeOk
  split
  · rfl
  · rw [find_plus env d _ h]
  · rfl

def ReqFree (env : Env) (u : String) : Req → Prop
  | .ty T => NoU u T
  | .classes c _ => c ≠ u ∧ env.isRegistered c = true

/-- **An unrelated class changes nothing.**  For every node that is not tagged with the new class and every
request that does not mention it, recognition with the additional class registered gives exactly the same
answer (same types, same error leaves, same fatal outcome). -/
theorem recognizeReq_plus (env : Env) (d : ClassDef) (hu : Unrelated env d) :
    ∀ (fuel : Nat) (n : Node) (q : Req), TagFree ("!" ++ d.name) n → ReqFree env d.name q →
      recognizeReq (env.plus d) fuel n q = recognizeReq env fuel n q := by
  intro fuel
  induction fuel with
  | zero => intro n q _ _; rw [recognizeReq_zero, recognizeReq_zero]
  | succ fuel ih =>
    intro n q hn hq
    cases q with
    | ty T =>
      cases T with
      | union ms =>
        rw [recognizeReq_union, recognizeReq_union, recUnion_eq, recUnion_eq,
          List.map_congr_left fun m hm => ih n (.ty m) hn (noUL_mem _ ms hq m hm)]
      | seq k item =>
        rw [recognizeReq_seq, recognizeReq_seq, recList_eq, recList_eq]
        refine congrArg (if n.isSeqNode then · else _) (recElems_congr _ none fun c hc => ?_)
        obtain ⟨x, hx, rfl⟩ := List.mem_map.mp hc
        exact ih x (.ty item) (tagFree_items hn x hx) hq
      | map k a b =>
        rw [recognizeReq_map, recognizeReq_map, recDict_eq, recDict_eq, keyTypeOk_plus env d a hq.1]
        refine congrArg (if keyTypeOk env a then if n.isMapNode then · else _ else _)
          (recElems_congr _ none (forall_mapCalls fun p hp =>
            ⟨ih _ _ (tagFree_pairs hn p hp).1 hq.1, ih _ _ (tagFree_pairs hn p hp).2 hq.2⟩))
      | cls c =>
        rw [recognizeReq_cls, recognizeReq_cls, isRegistered_plus env d c hq]
        split
        · rename_i hreg
          exact ih n (.classes c true) hn ⟨hq, hreg⟩
        · rfl
      | _ => rfl
    | classes c top =>
      obtain ⟨hc, hreg⟩ := hq
      have hvals : ∀ p ∈ n.pairs, TagFree ("!" ++ d.name) p.2 := fun p hp => (tagFree_pairs hn p hp).2
      rw [recognizeReq_classes, recognizeReq_classes, recClasses, recClasses, find_plus env d c hc,
        directSubclasses_plus env d hu c hreg]
      cases hf : env.find c with
      | none => rfl
      | some e =>
        dsimp only
        have hmem := find_mem env c e hf
        have hsub : ∀ s ∈ env.directSubclasses c, recognizeReq (env.plus d) fuel n (.classes s.name false) =
            recognizeReq env fuel n (.classes s.name false) := fun s hs => by
          have hsr := registered_of_mem env s (List.mem_filter.mp hs).1
          refine ih n (.classes s.name false) hn ⟨fun he => ?_, hsr⟩
          rw [he, hu.fresh] at hsr
          cases hsr
        have hfin : finishClasses (env.plus d) n top = finishClasses env n top := by
          funext ts causes
          unfold finishClasses
          rw [byTag_plus env d n.tag (tagFree_tag _ n hn)]
        rw [List.map_congr_left hsub, recUserClass_congr (env := env) (env' := env.plus d) (rec := fun x U => recognizeReq env fuel x (.ty U))
            (rec' := fun x U => recognizeReq (env.plus d) fuel x (.ty U)) (n := n) (d := e) rfl
            (fun prog hr => runRecProg_congr env.ext fun a T hm p hp =>
              ih p.2 (.ty T) (hvals p hp) (hu.hooks e hmem prog hr a T hm))
            (recAttrs_congr n fun q hq p hp => ih p.2 (.ty q.ty) (hvals p hp) (hu.params e hmem q hq)), hfin]

end YatimlModel
