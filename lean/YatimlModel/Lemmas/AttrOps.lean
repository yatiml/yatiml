import YatimlModel.Model.NodeOps
/-!
The values found under a key (`valuesOf`), and what `has_attribute`, `set_attribute` and `remove_attribute`
(`hasKey`, `setFirst`, `removeFirst`) do to them.
-/
namespace YatimlModel
open NodeOps

theorem keyIs_two (k : Node) (a b : String) (ha : k.keyIs a = true) (hb : k.keyIs b = true) : a = b := by
  cases k <;> simp_all [Node.keyIs]

theorem valuesOf_cons (p : Node × Node) (ps : List (Node × Node)) (a : String) :
    valuesOf (p :: ps) a = if p.1.keyIs a then p.2 :: valuesOf ps a else valuesOf ps a := by
  rw [valuesOf, List.filter_cons]
  cases p.1.keyIs a <;> rfl

theorem valuesOf_setFirst_ne (ps : List (Node × Node)) (a b : String) (v : Node) (hab : a ≠ b) :
    valuesOf (setFirst ps a v) b = valuesOf ps b := by
  -- one goal per equation of `setFirst`: no pair, first key is `a` (`hk`), first key differs (`ih`)
  fun_induction setFirst ps a v with
  | case1 =>
    rw [valuesOf_cons]
    exact if_neg (mt eq_of_beq hab)
  | case2 k x rest hk =>
    have : k.keyIs b = false := Bool.eq_false_iff.mpr fun hkb => hab (keyIs_two _ a b hk hkb)
    simp [valuesOf_cons, this]
  | case3 k x rest hk ih => simp [valuesOf_cons, ih]

theorem valuesOf_setFirst_same (ps : List (Node × Node)) (a : String) (v : Node) (h : valuesOf ps a ≠ []) :
    valuesOf (setFirst ps a v) a = v :: (valuesOf ps a).tail := by
  fun_induction setFirst ps a v with
  | case1 => exact absurd rfl h
  | case2 k x rest hk => simp [valuesOf_cons, hk]
  | case3 k x rest hk ih =>
    simp only [valuesOf_cons, hk] at h
    simp [valuesOf_cons, hk, ih h]

theorem NodeOps.hasKey_eq_false_iff {ps : List (Node × Node)} {a : String} :
    hasKey ps a = false ↔ valuesOf ps a = [] := by
  rw [hasKey, valuesOf, List.map_eq_nil_iff, List.filter_eq_nil_iff, List.any_eq_false]

theorem valuesOf_nil_of_no_key (ps : List (Node × Node)) (a : String) (h : hasKey ps a = false) :
    valuesOf ps a = [] :=
  hasKey_eq_false_iff.mp h

theorem hasAttribute_false {n : Node} {a : String} (h : hasAttribute n a = .ok false) : valuesOf n.pairs a = [] := by
  cases n with
  | map t ps m => exact valuesOf_nil_of_no_key ps.toList a (Except.ok.inj h)
  | scalar _ _ _ => rfl
  | seq _ _ _ => rfl

theorem setAttribute_values {n n1 sub v : Node} {a : String} (hget : getAttribute n a = .ok sub)
    (hset : setAttribute n a v = .ok n1) :
    valuesOf n1.pairs a = [v] ∧ ∀ b, a ≠ b → valuesOf n1.pairs b = valuesOf n.pairs b := by
  cases n with
  | scalar _ _ _ => cases hget
  | seq _ _ _ => cases hget
  | map t ps m =>
    cases hset
    dsimp only [getAttribute] at hget
    split at hget
    · rename_i x hx
      simp only [Node.pairs, Pairs.toList_ofList]
      exact ⟨by rw [valuesOf_setFirst_same _ _ _ (hx ▸ List.cons_ne_nil _ _), hx]; rfl,
        fun b hb => valuesOf_setFirst_ne _ _ _ _ hb⟩
    · cases hget

theorem setFirst_absent {ps : List (Node × Node)} {a : String} (v : Node) (h : hasKey ps a = false) :
    setFirst ps a v = ps ++ [(Node.scalar tStr a Mark.generated, v)] := by
  induction ps with
  | nil => rfl
  | cons p rest ih =>
    rw [hasKey, List.any_cons, Bool.or_eq_false_iff] at h
    rw [setFirst, if_neg (by simp [h.1]), ih h.2]; rfl

theorem valuesOf_removeFirst (ps : List (Node × Node)) (a : String) :
    valuesOf (removeFirst ps a) a = (valuesOf ps a).tail := by
  fun_induction removeFirst ps a with
  | case1 => rfl
  | case2 => simp_all [valuesOf_cons]
  | case3 => simp_all [valuesOf_cons]

end YatimlModel
