import YatimlModel.Model.Registry
/-!
Generic facts about the registry interpreter:

* `explore_sound` — when `explore` succeeds, every run of the program (any iteration counts) ends in
  one of the listed states;
* `Frame` / `runProg_frame` — a run whose `low` flag stays false leaves every space below its own level
  exactly as it was.
-/
namespace YatimlModel.Reg

theorem iter_fixed (b : List Stmt) (σ : St) (h : runStmts σ b = σ) (n : Nat) : iter b n σ = σ := by
  induction n with
  | zero => rfl
  | succ n ih => rw [iter, h, ih]

theorem explore_sound : ∀ (p : List Top) (σ : St) (fs : List St), explore p σ = some fs →
    ∀ cs, runProg p cs σ ∈ fs := by
  intro p
  induction p with
  | nil =>
    intro σ fs h cs
    cases h
    exact List.mem_cons_self
  | cons t rest ih =>
    intro σ fs h cs
    cases t with
    | stmt s => exact ih _ fs h cs
    | loop b =>
      rw [explore] at h
      split at h
      · next hfix =>
        split at h
        · next xs ys hx hy =>
          cases h
          rw [runProg]
          -- no iteration, or the fixed point the first iteration reaches
          cases cs.headD 0 with
          | zero => exact List.mem_append_left _ (ih σ xs hx cs.tail)
          | succ n =>
            rw [iter, iter_fixed b _ hfix n]
            exact List.mem_append_right _ (ih _ ys hy cs.tail)
        · cases h
      · cases h

/-- `σ'` comes after `σ` in a run at the same level; if no write so far went below that level, the
spaces below it are unchanged -/
def Frame (σ σ' : St) : Prop :=
  σ'.level = σ.level ∧ (σ'.low = false → σ.low = false ∧ ∀ l, l < σ.level → σ'.space l = σ.space l)

theorem Frame.refl (σ : St) : Frame σ σ := ⟨rfl, fun h => ⟨h, fun _ _ => rfl⟩⟩

theorem Frame.trans {a b c : St} (h1 : Frame a b) (h2 : Frame b c) : Frame a c :=
  ⟨h2.1.trans h1.1, fun hc =>
    have ⟨hb, e2⟩ := h2.2 hc
    have ⟨ha, e1⟩ := h1.2 hb
    ⟨ha, fun l hl => (e2 l (h1.1 ▸ hl)).trans (e1 l hl)⟩⟩

theorem frame_fail {σ : St} : Frame σ σ.fail := Frame.refl σ
theorem frame_bind {σ : St} {x : Name} {v : V} : Frame σ (σ.bind x v) := Frame.refl σ

theorem frame_touch {σ : St} {l : Nat} : Frame σ (σ.touch l) :=
  ⟨rfl, fun h => ⟨(Bool.or_eq_false_iff.mp h).1, fun _ _ => rfl⟩⟩

theorem space_set_ne {σ : St} {l l' : Nat} {xs : List Obj} {low : Bool} (h : l' ≠ l) :
    St.space { σ with spaces := σ.spaces.set l xs, low := low } l' = σ.space l' := by
  simp only [St.space, List.getElem?_set_ne (Ne.symm h)]

theorem frame_write {σ : St} {l i : Nat} {o : Obj} : Frame σ (σ.write l i o) := by
  refine ⟨rfl, fun h => ?_⟩
  obtain ⟨h1, h2⟩ := Bool.or_eq_false_iff.mp h
  exact ⟨h1, fun l' hl' => space_set_ne fun e => of_decide_eq_false h2 (e ▸ hl')⟩

theorem frame_alloc {σ : St} {o : Obj} : Frame σ (σ.alloc o).1 :=
  ⟨rfl, fun h => ⟨h, fun _ hl' => space_set_ne (Nat.ne_of_lt hl')⟩⟩

theorem frame_evalCopy {σ : St} {v : V} {d : Bool} : Frame σ (evalCopy σ v d).2 := by
  unfold evalCopy
  split
  · split
    · exact frame_alloc
    · exact frame_fail
  · exact frame_fail

theorem frame_eval (σ : St) (e : E) : Frame σ (eval σ e).2 := by
  induction e generalizing σ with
  | var x =>
    unfold eval
    split
    · exact Frame.refl _
    · exact frame_fail
  | attr e a ih =>
    have := ih σ
    unfold eval
    generalize eval σ e = r at this ⊢
    split
    · split
      · exact this
      · exact this.trans frame_fail
    · exact this
  | none | atom s => exact Frame.refl _
  | newTbl => exact frame_alloc
  | copyTbl e ih | deepCopyTbl e ih =>
    have := ih σ
    unfold eval
    generalize eval σ e = r at this ⊢
    split
    · exact this.trans frame_evalCopy
    · exact this

theorem frame_doSetAttr {σ : St} {t : V} {a : Name} {v : V} : Frame σ (doSetAttr σ t a v) := by
  unfold doSetAttr
  split
  · split
    · exact frame_fail
    · exact frame_write
    · exact frame_fail
  · exact frame_fail

theorem frame_doTblSet {σ : St} {t : V} : Frame σ (doTblSet σ t) := by
  unfold doTblSet
  split
  · exact frame_touch
  · exact frame_fail

theorem frame_doTblSetList {σ : St} {t : V} {n : Nat} : Frame σ (doTblSetList σ t n) := by
  unfold doTblSetList
  split
  · exact frame_write
  · exact frame_fail

theorem frame_doTblAppendIn {σ : St} {t : V} : Frame σ (doTblAppendIn σ t) := by
  unfold doTblAppendIn
  split
  · exact frame_touch.trans frame_touch
  · exact frame_fail

theorem frame_eval_then (σ : St) (e : E) (k : V → St → St) (hk : ∀ v σ', Frame σ' (k v σ')) :
    Frame σ (match eval σ e with | (some v, σ') => k v σ' | (none, σ') => σ') := by
  have := frame_eval σ e
  generalize eval σ e = r at this ⊢
  split
  · exact this.trans (hk _ _)
  · exact this

theorem frame_runSimple (σ : St) (s : Simple) : Frame σ (runSimple σ s) := by
  cases s with
  | assign x e => exact frame_eval_then σ e (fun v σ' => σ'.bind x v) fun _ _ => frame_bind
  | newClass x parent attrs =>
    exact frame_eval_then σ parent _ fun _ _ => frame_alloc.trans frame_bind
  | newInst x c => exact frame_eval_then σ c _ fun _ _ => frame_alloc.trans frame_bind
  | setAttr o a rhs =>
    exact frame_eval_then σ o _ fun ov σ1 =>
      frame_eval_then σ1 rhs (fun v σ2 => doSetAttr σ2 ov a v) fun _ _ => frame_doSetAttr
  | tblSet t => exact frame_eval_then σ t _ fun _ _ => frame_doTblSet
  | tblSetList t src =>
    cases src with
    | none => exact frame_eval_then σ t _ fun _ _ => frame_doTblSetList
    | some src =>
      refine frame_eval_then σ t _ fun tv σ1 => frame_eval_then σ1 src _ fun sv σ2 => ?_
      split
      · exact frame_doTblSetList
      · exact frame_fail
  | tblAppendIn t => exact frame_eval_then σ t _ fun _ _ => frame_doTblAppendIn

theorem frame_runSimples (σ : St) (ss : List Simple) : Frame σ (runSimples σ ss) := by
  induction ss generalizing σ with
  | nil => exact Frame.refl _
  | cons s rest ih => exact (frame_runSimple σ s).trans (ih _)

theorem frame_runStmt (σ : St) (s : Stmt) : Frame σ (runStmt σ s) := by
  cases s with
  | simple s => exact frame_runSimple σ s
  | ifNone e body =>
    have := frame_eval σ e
    simp only [runStmt]
    generalize eval σ e = r at this ⊢
    split
    · exact this.trans (frame_runSimples _ _)
    · exact this
    · exact this
  | ifNotOwn o a body =>
    have := frame_eval σ o
    simp only [runStmt]
    generalize eval σ o = r at this ⊢
    split
    · split
      · exact this
      · exact this.trans (frame_runSimples _ _)
    · exact this

theorem frame_runStmts (σ : St) (ss : List Stmt) : Frame σ (runStmts σ ss) := by
  induction ss generalizing σ with
  | nil => exact Frame.refl _
  | cons s rest ih => exact (frame_runStmt σ s).trans (ih _)

theorem frame_iter (b : List Stmt) (n : Nat) (σ : St) : Frame σ (iter b n σ) := by
  induction n generalizing σ with
  | zero => exact Frame.refl _
  | succ n ih => exact (frame_runStmts σ b).trans (ih _)

theorem frame_runProg (p : List Top) (cs : List Nat) (σ : St) : Frame σ (runProg p cs σ) := by
  induction p generalizing cs σ with
  | nil => exact Frame.refl σ
  | cons t rest ih =>
    cases t with
    | stmt s => exact (frame_runStmt σ s).trans (ih cs _)
    | loop b => exact (frame_iter b _ σ).trans (ih cs.tail _)

/-- **Frame.**  A run that ends with `low = false` has not changed any space below its level. -/
theorem runProg_frame (p : List Top) (cs : List Nat) (σ : St) (h : (runProg p cs σ).ok = true)
    (l : Nat) (hl : l < σ.level) : (runProg p cs σ).space l = σ.space l := by
  rw [St.ok, Bool.and_eq_true, Bool.not_eq_eq_eq_not, Bool.not_true] at h
  exact ((frame_runProg p cs σ).2 h.1).2 l hl

end YatimlModel.Reg
