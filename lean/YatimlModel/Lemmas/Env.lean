import YatimlModel.Model.Types
import YatimlModel.Lemmas.CoreTags
/-!
The class table: what `Env.find` returns, `Env.isRegistered` and `Env.byTag` in terms of it, and `find` in a
table whose order of registration differs.
-/
namespace YatimlModel

theorem find_name (env : Env) (c : String) (d : ClassDef) (h : env.find c = some d) : d.name = c := by
  simpa using List.find?_some h

theorem find_mem (env : Env) (c : String) (d : ClassDef) (h : env.find c = some d) : d ∈ env.registered :=
  List.mem_of_find?_eq_some h

theorem find_perm (c : String) {l l' : List ClassDef} (hp : l.Perm l') (hn : (l.map (·.name)).Nodup) :
    l.find? (fun d => d.name == c) = l'.find? (fun d => d.name == c) := by
  induction hp with
  | nil => rfl
  | cons x _ ih => rw [List.find?_cons, List.find?_cons, ih (List.nodup_cons.mp hn).2]
  | swap x y l =>
    dsimp only [List.find?_cons]
    cases hx : x.name == c <;> cases hy : y.name == c <;> try rfl
    -- both are called `c`: the names repeat
    exact ((List.nodup_cons.mp hn).1 (List.mem_map.mpr ⟨x, List.mem_cons_self, (eq_of_beq hx).trans (eq_of_beq hy).symm⟩)).elim
  | trans h1 _ ih1 ih2 => exact (ih1 hn).trans (ih2 ((h1.map (·.name)).nodup hn))

theorem isRegistered_eq (env : Env) (c : String) : env.isRegistered c = (env.find c).isSome := by
  rw [Bool.eq_iff_iff, Env.isRegistered, Env.find, List.find?_isSome, List.any_eq_true]

theorem find_isRegistered (env : Env) (c : String) (d : ClassDef) (h : env.find c = some d) :
    env.isRegistered c = true := by
  rw [isRegistered_eq, h]
  rfl

theorem registered_of_mem (env : Env) (e : ClassDef) (h : e ∈ env.registered) : env.isRegistered e.name = true :=
  List.any_eq_true.mpr ⟨e, h, beq_iff_eq.mpr rfl⟩

theorem bang_of_prefix (t : String) (h : hasPrefix "!" t = true) : t = "!" ++ String.ofList (t.toList.drop 1) := by
  obtain ⟨r, hr⟩ := List.isPrefixOf_iff_prefix.mp h
  simp [← String.toList_inj, ← hr]

theorem byTag_bang (env : Env) (c : String) : env.byTag ("!" ++ c) = env.find c := by
  simp [Env.byTag, hasPrefix_append]

theorem byTag_core (env : Env) (t : String) (h : hasPrefix corePrefix t = true) : env.byTag t = none := by
  simp [Env.byTag, hasPrefix_core_not_bang t h]

end YatimlModel
