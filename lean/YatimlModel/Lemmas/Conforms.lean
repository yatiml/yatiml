import YatimlModel.Model.Load
import YatimlModel.Lemmas.RecSound
import YatimlModel.Lemmas.PlainData
import YatimlModel.Lemmas.AttrOps
import YatimlModel.Lemmas.ProcAll
/-!
Conformance of the root value, all the way down through containers:

* `Tagged env T n` — the shape of a tree that processing against type `T` leaves behind: the root
  carries the tag of a recognised type admitted by `T`, items of lists and keys/values of dicts are
  tagged for their own declared types, a tree under `Any` has core tags only;
* `processNode_tagged` — processing produces such a tree;
* `construct_tagged_all` — constructing such a tree follows the type; `construct_conforms` (the value
  `typeMatches` the type: containers element-wise, unions member-wise, classes by `isinstance`) and
  `Lemmas/Reach` (which constructors run) are its two instances.

What an object's *attributes* are is the business of the constructor's own check
(`construct_sound`): every constructor call is type-checked, at any depth.
-/
namespace YatimlModel
open NodeOps

mutual
inductive Tagged (env : Env) : Ty → Node → Prop
  | mk {T R : Ty} {n : Node} : Admits env T R → TaggedR env R n → Tagged env T n
inductive TaggedR (env : Env) : Ty → Node → Prop
  | any {n : Node} : AllCore n → TaggedR env .any n
  | scalar {R : Ty} {n : Node} {t : String} : scalarTag R = some t → n.tag = t → TaggedR env R n
  | path {n : Node} : n.tag = "!Path" → TaggedR env .path n
  | seq {k : SeqKind} {item : Ty} {xs : Nodes} {m : Mark} :
      (∀ x, x ∈ xs.toList → Tagged env item x) → TaggedR env (.seq k item) (.seq tSeq xs m)
  | map {k : MapKind} {K V : Ty} {ps : Pairs} {m : Mark} :
      (∀ p, p ∈ ps.toList → Tagged env K p.1) → (∀ p, p ∈ ps.toList → Tagged env V p.2) →
      TaggedR env (.map k K V) (.map tMap ps m)
  | cls {c : String} {n : Node} : env.isRegistered c = true → n.tag = "!" ++ c →
      (∀ dd, env.find c = some dd → dd.kind = .plain → ∀ p, p ∈ dd.params →
        ∀ v, v ∈ valuesOf n.pairs p.name → Tagged env p.ty v) →
      TaggedR env (.cls c) n
end

variable {env : Env}

-- with `BEq.rfl`, `simp` searches for `ReflBEq String` each time (slow); `beq_iff_eq` does the same work
attribute [-simp] BEq.rfl

theorem procAttrs_tagged (env : Env) (proc : Node → Ty → ProcRes)
    (hp : ∀ x U o, proc x U = .ok o → Tagged env U o.node) :
    ∀ (params : List Param) (n n' : Node) (tr : List String), (params.map (·.name)).Nodup →
      procAttrs proc n params = .ok (n', tr) →
      (∀ p ∈ params, ∀ v, v ∈ valuesOf n'.pairs p.name → Tagged env p.ty v) ∧
      (∀ a, (∀ p ∈ params, p.name ≠ a) → valuesOf n'.pairs a = valuesOf n.pairs a) := by
  intro params n n' tr hnd h
  -- the ways `procAttrs` answers `.ok`, in its order
  fun_induction procAttrs proc n params generalizing n' tr <;> try cases h
  · exact ⟨List.forall_mem_nil _, fun _ _ => rfl⟩
  · -- the key is absent
    rename_i n p rest hhas ih
    obtain ⟨hp1, hnd'⟩ := List.nodup_cons.mp hnd
    obtain ⟨ih1, ih2⟩ := ih n' tr hnd' h
    refine ⟨List.forall_mem_cons.mpr ⟨fun v hv => ?_, ih1⟩,
      fun a ha => ih2 a fun r hr => ha r (List.mem_cons_of_mem _ hr)⟩
    rw [ih2 _ fun r hr hne => hp1 (List.mem_map.mpr ⟨r, hr, hne⟩), hasAttribute_false hhas] at hv
    cases hv
  · -- the key is present: its one value is replaced by the processed one
    rename_i n p rest _ sub hget o ho n1 hset n2 tr2 hrest ih
    obtain ⟨hp1, hnd'⟩ := List.nodup_cons.mp hnd
    obtain ⟨ih1, ih2⟩ := ih n2 tr2 hnd' hrest
    obtain ⟨hs1, hs2⟩ := setAttribute_values hget hset
    refine ⟨List.forall_mem_cons.mpr ⟨fun v hv => ?_, ih1⟩, fun a ha => ?_⟩
    · rw [ih2 _ fun r hr hne => hp1 (List.mem_map.mpr ⟨r, hr, hne⟩), hs1, List.mem_singleton] at hv
      subst hv
      exact hp sub p.ty o ho
    · rw [ih2 a fun r hr => ha r (List.mem_cons_of_mem _ hr), hs2 a (ha p List.mem_cons_self)]

/-- **Processing leaves a tree tagged for its type.** -/
theorem processNode_tagged (env : Env) (tbl : List Entry) (htbl : TableCore tbl)
    (hpn : ∀ c d, env.find c = some d → (d.params.map (·.name)).Nodup) :
    ∀ (fuel : Nat) (n : Node) (T : Ty) (o : ProcOut), processNode env tbl fuel n T = .ok o →
      Tagged env T o.node := by
  intro fuel
  induction fuel with
  | zero => exact fun _ _ _ h => nomatch h
  | succ fuel ih =>
    intro n T o h
    have ih' : ∀ x U, ProcAll (Tagged env U) (fun _ => True) (processNode env tbl fuel x U) :=
      fun x U => .intro (ih x U) (fun _ _ => trivial)
    obtain ⟨R, ls, n2, tr, n3, tr', hrec, -, hsub, htag⟩ := processNode_ok h
    refine .mk (recognize_admits env (fuel + 1) n T [R] ls hrec R List.mem_cons_self) ?_
    obtain ⟨-, ⟨rfl, ho⟩ | ⟨hany, tag, htt, ho⟩⟩ := tagStep_ok htag
    · rw [ho]
      exact .any (stripTags_allCore tbl htbl n3)
    rw [ho]
    cases R with
    | any => exact absurd rfl hany
    | union ms => cases htt
    | path =>
      cases htt
      exact .path (tag_setTag _ _)
    | cls c =>
      obtain ⟨hreg, htt⟩ := Option.ite_none_right_eq_some.mp htt
      cases htt
      refine .cls hreg (tag_setTag _ _) ?_
      intro dd hfd hplain q hq v hv
      rw [pairs_setTag] at hv
      have hpl : dd.isPlain = true := beq_iff_eq.mpr hplain
      simp only [subStep.eq_def, hfd, hpl, Bool.true_and] at hsub
      cases n2 with
      | map t ps m => exact (procAttrs_tagged env _ ih dd.params _ n3 tr' (hpn c dd hfd) hsub).1 q hq v hv
      | _ =>
        cases hsub
        cases hv
    | seq k item =>
      cases htt
      cases n2 with
      | seq t xs m =>
        dsimp only [subStep] at hsub
        split at hsub
        · cases hsub
        · have hall := procItems_all _ item xs.toList (fun x _ => ih' x item)
          split at hsub
          · cases hsub
          · rename_i ys tr'' hitems
            rw [hitems] at hall
            cases hsub
            exact .seq (fun x hx => hall x (Nodes.toList_ofList ys ▸ hx))
      | _ => cases hsub
    | map k K V =>
      cases htt
      cases n2 with
      | map t ps m =>
        dsimp only [subStep] at hsub
        split at hsub
        · cases hsub
        · have hall := procPairs_all _ K V ps.toList (fun p _ => ⟨ih' p.1 K, ih' p.2 V⟩)
          split at hsub
          · cases hsub
          · rename_i qs tr'' hpairs
            rw [hpairs] at hall
            cases hsub
            exact .map (fun p hp => (hall p (Pairs.toList_ofList qs ▸ hp)).1) (fun p hp => (hall p (Pairs.toList_ofList qs ▸ hp)).2)
      | _ => cases hsub
    | _ => exact .scalar htt (tag_setTag _ _)

/-- Facts about the class table that hold for real Python classes (`ancestors` is the MRO without the
class itself, `bases` its direct bases) and that the model cannot derive by itself. -/
structure EnvWF (env : Env) : Prop where
  /-- no user class is called `Path` (the tag `!Path` is yatiml's own) -/
  noPath : env.find "Path" = none
  /-- a class reachable through registered direct-subclass steps has the starting class in its MRO -/
  anc : ∀ c d dd, Descends env c d → env.find d = some dd → c = d ∨ dd.ancestors.contains c = true
  /-- the MRO of a class contains the MROs of its members -/
  trans : ∀ e ee d dd c, env.find e = some ee → ee.ancestors.contains d = true → env.find d = some dd →
    dd.ancestors.contains c = true → ee.ancestors.contains c = true
  paramNames : ∀ c d, env.find c = some d → (d.params.map (·.name)).Nodup

theorem isInstanceOf_up (hwf : EnvWF env) {v : PyVal} {c d : String} (hd : Descends env c d)
    (hc : Concrete env d) (h : isInstanceOf env v d = true) : isInstanceOf env v c = true := by
  obtain ⟨dd, hfd, _⟩ := hc
  rcases hwf.anc c d dd hd hfd with rfl | h1
  · exact h
  unfold isInstanceOf at h ⊢
  dsimp only at h ⊢
  split at h
  · rename_i e _
    simp only [Bool.or_eq_true, beq_iff_eq] at h ⊢
    refine .inr ?_
    rcases h with rfl | he
    · rw [hfd]; exact h1
    · cases hfe : env.find e with
      | none => rw [hfe] at he; cases he
      | some ee => rw [hfe] at he; exact hwf.trans e ee d dd c hfe he hfd h1
  · cases h

/-- dict key types are `str` or a class (anything else makes yatiml raise RuntimeError anyway) -/
def KeyOk (k : Ty) : Prop := k = .str ∨ ∃ c, k = .cls c

mutual
def DictKeysOk : Ty → Prop
  | .union ms => DictKeysOkL ms
  | .seq _ i => DictKeysOk i
  | .map _ k v => KeyOk k ∧ DictKeysOk v
  | _ => True
def DictKeysOkL : Tys → Prop
  | .nil => True
  | .cons t ts => DictKeysOk t ∧ DictKeysOkL ts
end

theorem dictKeysOkL_mem : ∀ (ms : Tys), DictKeysOkL ms → ∀ m ∈ ms.toList, DictKeysOk m := by
  intro ms
  -- induction along `toList`: `Tys` is a mutual inductive, and recursion by equations is dearer
  fun_induction Tys.toList ms with
  | case1 => exact fun _ _ hm => nomatch hm
  | case2 t ts ih => exact fun h => List.forall_mem_cons.mpr ⟨h.1, ih h.2⟩

theorem KeyOk.dictKeysOk {K : Ty} (h : KeyOk K) : DictKeysOk K := by
  rcases h with rfl | ⟨c, rfl⟩ <;> trivial

theorem keyMatches_eq {K : Ty} (hK : KeyOk K) (v : PyVal) : keyMatches env v K = typeMatches env v K := by
  rcases hK with rfl | ⟨c, rfl⟩
  · unfold typeMatches; rfl
  · rw [typeMatches_cls]; rfl

theorem admits_keyOk {a t : Ty} (hK : KeyOk a) (h : Admits env a t) : KeyOk t := by
  rcases hK with rfl | ⟨c, rfl⟩
  · cases h with
    | self _ _ _ => exact Or.inl rfl
  · cases h with
    | self _ h1 _ => exact absurd rfl (h1 c)
    | cls _ _ => exact Or.inr ⟨_, rfl⟩

theorem admits_typeMatches (env : Env) (hwf : EnvWF env) {T R : Ty} (h : Admits env T R) :
    DictKeysOk T → ∀ v, typeMatches env v R = true → typeMatches env v T = true := by
  induction h with
  | self T _ _ => exact fun _ _ => id
  | unionMem hm _ ih => exact fun hT v hv => typeMatches_union.mpr ⟨_, hm, ih (dictKeysOkL_mem _ hT _ hm) v hv⟩
  | cls hd hc =>
    intro _ v hv
    rw [typeMatches_cls] at hv ⊢
    exact isInstanceOf_up hwf hd hc hv
  | seqItem _ ih =>
    intro hT v hv
    obtain ⟨xs, rfl, h⟩ := typeMatches_seq.mp hv
    exact typeMatches_seq.mpr ⟨xs, rfl, fun x hx => ih hT x (h x hx)⟩
  | mapKey ha iha =>
    intro hT v hv
    obtain ⟨kvs, rfl, h⟩ := typeMatches_map.mp hv
    exact typeMatches_map.mpr ⟨kvs, rfl, fun e he => ⟨(keyMatches_eq hT.1 _).trans
      (iha hT.1.dictKeysOk _ ((keyMatches_eq (admits_keyOk hT.1 ha) _).symm.trans (h e he).1)), (h e he).2⟩⟩
  | mapVal _ ih =>
    intro hT v hv
    obtain ⟨kvs, rfl, h⟩ := typeMatches_map.mp hv
    exact typeMatches_map.mpr ⟨kvs, rfl, fun e he => ⟨(h e he).1, ih hT.2 _ (h e he).2⟩⟩

theorem admits_dictKeysOk {T R : Ty} (h : Admits env T R) : DictKeysOk T → DictKeysOk R := by
  induction h with
  | self T _ _ => exact id
  | unionMem hm _ ih => exact fun hT => ih (dictKeysOkL_mem _ hT _ hm)
  | cls _ _ => exact fun _ => trivial
  | seqItem _ ih => exact ih
  | mapKey ha _ => exact fun hT => ⟨admits_keyOk hT.1 ha, hT.2⟩
  | mapVal _ ih => exact fun hT => ⟨hT.1, ih hT.2⟩

theorem scalarTag_core {R : Ty} {t : String} (h : scalarTag R = some t) :
    hasPrefix corePrefix t = true ∧ (t == tSeq) = false ∧ (t == tMap) = false := by
  revert h
  fun_cases scalarTag R <;> intro h <;> cases h <;> simp [core_tags]

theorem scalarCore_typed {R : Ty} {t v : String} {m : Mark} {x : PyVal}
    (ht : scalarTag R = some t) (h : constructScalarCore env.ext t v m = .ok x) :
    typeMatches env x R = true := by
  cases R <;> cases ht <;>
    simp only [constructScalarCore_str, constructScalarCore_int, constructScalarCore_float, constructScalarCore_bool,
      constructScalarCore_null, constructScalarCore_timestamp] at h <;>
    (try split at h) <;> cases h <;> (unfold typeMatches; rfl)

theorem key_tag_plain {K : Ty} (hK : KeyOk K) {k : Node} (h : Tagged env K k) :
    (k.tag == tMerge) = false ∧ (k.tag == tValue) = false := by
  cases h with
  | mk hadm hr =>
    refine tag_not_merge ?_
    rcases admits_keyOk hK hadm with rfl | ⟨c, rfl⟩
    · cases hr with
      | scalar ht htag =>
        cases ht
        exact .inl htag
    · cases hr with
      | scalar ht _ => cases ht
      | cls _ htag _ => exact .inr ⟨c, htag⟩

theorem construct_scalarTag_all {C : Call → Prop} {tbl : List Entry} {fuel : Nat} {R : Ty} {t : String} {n : Node}
    (ht : scalarTag R = some t) (htg : n.tag = t) :
    ConsAll C (fun v => typeMatches env v R = true) (fun _ => True) (construct env tbl (fuel + 1) n) := by
  obtain ⟨hcore, hns, hnm⟩ := scalarTag_core ht
  have hb := byTag_core env t hcore
  have hp := core_ne_path t hcore
  cases n with
  | scalar t' v m =>
    cases (show t' = t from htg)
    rw [construct_scalar_eq hb hp]
    split
    · rename_i x hx
      exact ⟨List.forall_mem_nil _, scalarCore_typed ht hx⟩
    · exact ⟨List.forall_mem_nil _, trivial⟩
  | seq t' xs m =>
    cases (show t' = t from htg)
    rw [construct_seq_eq hb hp, hns]
    exact ⟨List.forall_mem_nil _, trivial⟩
  | map t' ps m =>
    cases (show t' = t from htg)
    rw [construct_map_eq hb hp, hnm]
    exact ⟨List.forall_mem_nil _, trivial⟩

/-- Constructing a tree tagged for a type follows the type: a leaf by its tag, a container element by
element, a class node by its constructor, whose arguments are the values under the keys (`hattr`, which
may use the statement for less fuel; a key is a `str` scalar and calls nothing).  `C T` is what is claimed
of the calls made at a position of type `T`: it must pass from a recognised type to the types that admit
it, from item, key and value types to the container type, and hold of a class's own constructor. -/
theorem construct_tagged_all (env : Env) (tbl : List Entry) (hwf : EnvWF env) {C : Ty → Call → Prop}
    (hadm : ∀ T R c, Admits env T R → C R c → C T c)
    (hitem : ∀ k i c, C i c → C (.seq k i) c) (hkey : ∀ k a b c, C a c → C (.map k a b) c)
    (hval : ∀ k a b c, C b c → C (.map k a b) c)
    (hself : ∀ c kw, env.isRegistered c = true → C (.cls c) ⟨c, kw⟩)
    (hattr : ∀ fuel c dd (n : Node), env.find c = some dd → dd.kind = .plain →
      (∀ x U, Tagged env U x → DictKeysOk U →
        ConsAll (C U) (fun v => typeMatches env v U = true) (fun _ => True) (construct env tbl fuel x)) →
      (∀ p ∈ dd.params, ∀ v ∈ valuesOf n.pairs p.name, Tagged env p.ty v) →
      ∀ p ∈ n.pairs, (∃ kv km, p.1 = .scalar tStr kv km) →
        ConsAll (C (.cls c)) (fun _ => True) (fun _ => True) (construct env tbl fuel (stripExtra tbl dd p).2))
    (fuel : Nat) (n : Node) (T : Ty) (htag : Tagged env T n) (hT : DictKeysOk T) :
    ConsAll (C T) (fun v => typeMatches env v T = true) (fun _ => True) (construct env tbl fuel n) := by
  induction fuel generalizing n T with
  | zero => exact ⟨List.forall_mem_nil _, trivial⟩
  | succ fuel ih =>
    obtain @⟨_, R, _, hTR, hr⟩ := htag
    have hR := admits_dictKeysOk hTR hT
    refine ConsAll.mono ?_ (fun c => hadm T R c hTR) (admits_typeMatches env hwf hTR hT) (fun _ => id)
    cases hr with
    | any hcore =>
      exact (construct_core_all hcore).mono (fun _ => id) (fun _ _ => by unfold typeMatches; rfl)
        (fun _ => id)
    | scalar ht htg =>
      exact construct_scalarTag_all ht htg
    | path htg =>
      exact construct_path_all (by simpa [← byTag_bang] using hwf.noPath) htg (fun _ => by unfold typeMatches; rfl)
        (fun _ _ => trivial)
    | @seq k item xs m hitems =>
      exact construct_seq_all (byTag_core env tSeq (by simp only [core_tags])) (core_ne_path tSeq (by simp only [core_tags]))
        (fun x hx => (ih x item (hitems x hx) hR).mono (hitem k item) (fun _ => id) (fun _ => id))
        (fun ys hys => typeMatches_seq.mpr ⟨_, rfl, by rwa [PyVals.toList_ofList]⟩) (fun _ _ => trivial)
    | @map k K V ps m hkeys hvals =>
      refine construct_map_all (K := fun v => keyMatches env v K = true) (W := fun v => typeMatches env v V = true)
        (byTag_core env tMap (by simp only [core_tags])) (core_ne_path tMap (by simp only [core_tags])) ?_
        (fun kvs hkvs => typeMatches_map.mpr ⟨_, rfl, by rwa [PyKVs.toList_ofList]⟩) (fun _ _ => trivial)
      intro flat hflat q hq
      rw [flattenPairs_id fuel ps.toList (fun p hp => key_tag_plain hR.1 (hkeys p hp))] at hflat
      cases hflat
      exact ⟨(ih q.1 K (hkeys q hq) hR.1.dictKeysOk).mono (hkey k K V) (fun v h => (keyMatches_eq hR.1 v).trans h)
          (fun _ => id),
        (ih q.2 V (hvals q hq) hR.2).mono (hval k K V) (fun _ => id) (fun _ => id)⟩
    | @cls c _ hreg htg hattrs =>
      obtain ⟨dd, hfd⟩ := Option.isSome_iff_exists.mp ((isRegistered_eq env c).symm.trans hreg)
      have hb : env.byTag n.tag = some dd := by rw [htg, byTag_bang]; exact hfd
      cases find_name env c dd hfd
      -- an object, enum member or string of class `dd` is an instance of `dd`: the first disjunct of `isInstanceOf`
      have hown {b} : (dd.name == dd.name || b) = true := Bool.or_eq_true_iff.mpr (.inl (beq_iff_eq.mpr rfl))
      cases hk : dd.kind with
      | enum ms => exact construct_enum_all hb hk (fun _ => by rw [typeMatches_cls]; exact hown) (fun _ _ => trivial)
      | stringLike =>
        exact construct_stringLike_all hb hk (fun _ _ => hself _ _ hreg)
          (fun _ => by rw [typeMatches_cls]; exact hown) (fun _ _ => trivial)
      | plain =>
        refine construct_plain_all (K := fun _ => True) (W := fun _ => True) hb hk ?_ (fun _ _ _ => hself _ _ hreg)
          (fun _ => by rw [typeMatches_cls]; exact hown) (fun _ _ => trivial)
        intro t ps m hn p hp hkey
        refine ⟨?_, hattr fuel _ dd n hfd hk ih (hattrs dd hfd hk) p (by rw [hn]; exact hp) hkey⟩
        obtain ⟨kv, km, hp1⟩ := hkey
        rw [hp1]
        exact construct_core_all (by simp only [AllCore, core_tags])

/-- **Constructing a tagged tree gives a value of the type.** -/
theorem construct_conforms (env : Env) (tbl : List Entry) (hwf : EnvWF env) :
    ∀ (fuel : Nat) (n : Node) (T : Ty) (o : ConsOut), Tagged env T n → DictKeysOk T →
      construct env tbl fuel n = .ok o → typeMatches env o.value T = true := by
  intro fuel n T o htag hT h
  exact (construct_tagged_all env tbl hwf (C := fun _ _ => True) (fun _ _ _ _ => id) (fun _ _ _ => id)
    (fun _ _ _ _ => id) (fun _ _ _ _ => id) (fun _ _ _ => trivial)
    (fun _ _ _ _ _ _ _ _ _ _ _ => .intro (fun _ _ => trivial) (fun _ _ => trivial) fun _ _ _ => trivial)
    fuel n T htag hT).value h

end YatimlModel
