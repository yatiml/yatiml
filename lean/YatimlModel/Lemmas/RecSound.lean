import YatimlModel.Lemmas.RecFolds
/-!
Every answer of the recogniser is well-formed, whatever the document, the tags in it and the custom
recognisers are:

* every type it names is *admitted* by the expected type (a member of the union, the type itself, a
  registered concrete class reachable from the expected class through registered direct-subclass edges, or
  an element-wise re-wrapping of such a type);
* the list of types is duplicate-free (it models a Python `set`);
* unless it names exactly one type, there is at least one error leaf and every leaf cites a position (what
  F15 and F18 violated).
-/
namespace YatimlModel

inductive Descends (env : Env) : String → String → Prop
  | refl (c : String) : Descends env c c
  | step {c e : String} (d : ClassDef) : d ∈ env.directSubclasses c → Descends env d.name e →
      Descends env c e

def Concrete (env : Env) (d : String) : Prop :=
  ∃ dd, env.find d = some dd ∧ dd.abstract = false

inductive Admits (env : Env) : Ty → Ty → Prop
  | self (T : Ty) (h : ∀ c, T ≠ .cls c) (h' : ∀ ms, T ≠ .union ms) : Admits env T T
  | unionMem {ms : Tys} {m t : Ty} : m ∈ ms.toList → Admits env m t → Admits env (.union ms) t
  | cls {c d : String} : Descends env c d → Concrete env d → Admits env (.cls c) (.cls d)
  | seqItem {k : SeqKind} {i t : Ty} : Admits env i t → Admits env (.seq k i) (.seq .list t)
  | mapKey {k : MapKind} {a b t : Ty} : Admits env a t → Admits env (.map k a b) (.map .dict t b)
  | mapVal {k : MapKind} {a b t : Ty} : Admits env b t → Admits env (.map k a b) (.map .dict a t)

def ReqOk (env : Env) : Req → Ty → Prop
  | .ty T, t => Admits env T t
  | .classes c _, t => ∃ d, t = .cls d ∧ Descends env c d ∧ Concrete env d

def Good (ls : List Leaf) : Prop := ls ≠ [] ∧ ∀ l ∈ ls, l.marks ≠ []

structure Shaped (Q : Ty → Prop) (ts : List Ty) (ls : List Leaf) : Prop where
  types : ∀ t ∈ ts, Q t
  nodup : ts.Nodup
  leaves : ts.length ≠ 1 → Good ls

def AnswerOk (Q : Ty → Prop) (r : RecRes) : Prop := ∀ ts ls, r = .ok (ts, ls) → Shaped Q ts ls

theorem good_single (m : Mark) (rest : List Mark) (keys : List String) : Good [⟨m :: rest, keys⟩] :=
  ⟨List.cons_ne_nil _ _, fun _ hl => List.mem_singleton.mp hl ▸ List.cons_ne_nil _ _⟩

theorem shaped_one {Q : Ty → Prop} {T : Ty} (h : Q T) (ls : List Leaf) : Shaped Q [T] ls :=
  ⟨fun _ ht => List.mem_singleton.mp ht ▸ h, List.pairwise_singleton _ T, fun h => (h rfl).elim⟩

theorem shaped_nil {Q : Ty → Prop} {ls : List Leaf} (h : Good ls) : Shaped Q [] ls :=
  ⟨List.forall_mem_nil _, List.nodup_nil, fun _ => h⟩

theorem answerOk_recOk {Q : Ty → Prop} {T : Ty} (h : Q T) : AnswerOk Q (recOk T) := fun _ _ hr =>
  (recOk_eq_ok_iff.mp hr).1 ▸ shaped_one h _

theorem answerOk_recFail {Q : Ty → Prop} (m : Mark) (rest : List Mark) (keys : List String) :
    AnswerOk Q (recFail (m :: rest) keys) := fun _ _ hr => by
  obtain ⟨rfl, rfl⟩ := recFail_eq_ok_iff.mp hr
  exact shaped_nil (good_single m rest keys)

theorem answerOk_error {Q : Ty → Prop} (e : Fatal) : AnswerOk Q (.error e) := fun _ _ h => nomatch h

theorem AnswerOk.imp {Q Q' : Ty → Prop} {r : RecRes} (a : AnswerOk Q r) (h : ∀ t, Q t → Q' t) : AnswerOk Q' r :=
  fun ts ls hr =>
  have s := a ts ls hr
  ⟨fun t ht => h t (s.types t ht), s.nodup, s.leaves⟩

def CausesOk (causes : List (List Leaf)) : Prop := ∀ c ∈ causes, Good c

theorem good_leavesOf (own : Leaf) (causes : List (List Leaf)) (hc : CausesOk causes)
    (hown : causes = [] → own.marks ≠ []) : Good (leavesOf own causes) := by
  cases causes with
  | nil => exact ⟨List.cons_ne_nil _ _, List.forall_mem_singleton.mpr (hown rfl)⟩
  | cons c cs =>
    obtain ⟨l, hl⟩ := List.exists_mem_of_ne_nil c (hc c List.mem_cons_self).1
    refine ⟨List.ne_nil_of_mem (List.mem_flatten.mpr ⟨c, List.mem_cons_self, hl⟩), fun l hl => ?_⟩
    obtain ⟨c', hc', hl'⟩ := List.mem_flatten.mp hl
    exact (hc c' hc').2 l hl'

theorem Collected.causesOk {α : Type} {xs : List α} {f : α → RecRes} {ts : List Ty} {causes : List (List Leaf)}
    (h : Collected (xs.map f) ts causes) (hf : ∀ x, ∃ Q, AnswerOk Q (f x)) : CausesOk causes := by
  intro c hc
  obtain ⟨x, _, hx⟩ := List.mem_map.mp (h.causes c hc)
  obtain ⟨_, hq⟩ := hf x
  exact (hq [] c hx).leaves nofun

theorem recElems_answerOk {rec : Node → Ty → RecRes} {T : Ty} {Q : Ty → Prop} {cs : List ElemCall} (hT : Q T)
    (h : ∀ c ∈ cs, AnswerOk (fun t => Q (c.2.2 t)) (rec c.1 c.2.1) ∧ ∀ a b, c.2.2 a = c.2.2 b → a = b) :
    AnswerOk Q (recElems rec T none cs) := by
  intro ts ls hr
  rcases recElems_ok hr with ⟨rfl, c, hc, hr'⟩ | ⟨_, hc | ⟨_, rfl | ⟨c, hc, ts', hr', hlen, rfl⟩⟩⟩
  · exact shaped_nil (((h c hc).1 [] ls hr').leaves fun e => nomatch e)
  · cases hc
  · exact shaped_one hT ls
  · obtain ⟨hq, hw⟩ := h c hc
    have := hq ts' ls hr'
    refine ⟨fun t ht => ?_, List.Pairwise.map _ (fun a b hne heq => hne (hw a b heq)) this.nodup,
      fun _ => this.leaves (Nat.ne_of_gt hlen)⟩
    obtain ⟨u, hu, rfl⟩ := List.mem_map.mp ht
    exact this.types u hu

theorem finishClasses_answerOk {env : Env} {n : Node} {top : Bool} {ts : List Ty} {causes : List (List Leaf)}
    {Q : Ty → Prop} (hq : ∀ t ∈ ts, Q t) (hn : ts.Nodup) (hc : CausesOk causes) :
    AnswerOk Q (finishClasses env n top ts causes) := by
  rcases finishClasses_cases env n top ts causes with ⟨ls, h, _, hl⟩ | ⟨d, _, hin, h⟩ | ⟨_, h⟩ <;> rw [h]
  · intro _ _ hr
    cases hr
    refine ⟨hq, hn, fun hne => ?_⟩
    obtain ⟨own, hown, rfl⟩ := hl hne
    exact good_leavesOf own causes hc hown
  · exact answerOk_recOk (hq _ hin)
  · exact answerOk_recFail _ _ _

theorem recAttrs_pos {rec : Node → Ty → RecRes} {n : Node} {ps : List (Node × Node)} {params : List Param}
    {ls : List Leaf} (hrec : ∀ v U, ∃ Q, AnswerOk Q (rec v U)) (h : recAttrs rec n ps params = .ok (some ls)) :
    Good ls := by
  rw [recAttrs_eq] at h
  obtain ⟨p, _, hp⟩ := List.mem_map.mp (firstSome_mem h nofun)
  have hvalue : ∀ name, valueVerdict rec ps p.ty name = .ok (some ls) → Good ls := by
    intro name hv
    rcases valueVerdict_cases rec ps p.ty name with h' | ⟨v, _, ⟨_, _, h'⟩ | ⟨ls', hr, h'⟩ | ⟨_, _, _, _, h'⟩⟩ <;>
      rw [h'] at hv <;> cases hv
    obtain ⟨_, hq⟩ := hrec v p.ty
    exact (hq [] ls hr).leaves fun e => nomatch e
  revert hp
  rw [recAttr_eq]
  cases NodeOps.hasKey ps p.name with
  | true => exact hvalue p.name
  | false =>
    cases NodeOps.hasKey ps (dashed p.name) with
    | true => exact hvalue (dashed p.name)
    | false =>
      cases p.required <;> intro hp <;> cases hp
      exact good_single _ _ _

theorem recUserClass_answerOk (env : Env) {rec : Node → Ty → RecRes} (n : Node) (d : ClassDef) {Q : Ty → Prop}
    (hd : Q (.cls d.name)) (hrec : ∀ v U, ∃ Q, AnswerOk Q (rec v U)) : AnswerOk Q (recUserClass env rec n d) := by
  rcases recUserClass_cases env rec n d with h | ⟨_, _, h⟩ | ⟨ls, ha, h⟩ | ⟨_, _, _, _, h⟩ | ⟨_, _, h⟩ <;> rw [h]
  · exact answerOk_recOk hd
  · exact answerOk_recFail _ _ _
  · intro _ _ hr; cases hr; exact shaped_nil (recAttrs_pos hrec ha)
  · exact answerOk_error _
  · exact answerOk_error _

theorem leafTag_self (env : Env) {T : Ty} {tag : String} (h : leafTag T = some tag) : Admits env T T := by
  refine Admits.self T ?_ ?_ <;> intro _ e <;> subst e <;> cases h

/-- **Every answer is well-formed**: a duplicate-free list of types the request admits, with good leaves
unless exactly one type is named. -/
theorem recognizeReq_answerOk (env : Env) :
    ∀ (fuel : Nat) (n : Node) (q : Req), AnswerOk (ReqOk env q) (recognizeReq env fuel n q) := by
  apply recognizeReq_induct (P := fun _ _ q r => AnswerOk (ReqOk env q) r)
  case fuel => intro _ _; exact answerOk_error _
  case scalar =>
    intro _ n T tag hT
    rw [recScalar_eq]
    cases Spec.scalarTagged n tag
    · exact answerOk_recFail _ _ _
    · exact answerOk_recOk (leafTag_self env hT)
  case any => intro _ _; exact answerOk_recOk (Admits.self _ (fun _ e => nomatch e) (fun _ e => nomatch e))
  case union =>
    intro _ rec n ms ih ts ls h
    obtain ⟨ts0, causes, c, rfl, rfl⟩ := recUnion_ok h
    refine ⟨fun t ht => ?_, c.nodup.sublist (dropBoolFix_sublist ts0), fun hne => ?_⟩
    · obtain ⟨ts', ls', hm, ht'⟩ := (c.mem t).mp ((dropBoolFix_sublist ts0).subset ht)
      obtain ⟨m, hm, hr⟩ := List.mem_map.mp hm
      exact Admits.unionMem hm ((ih n m ts' ls' hr).types t ht')
    · rw [if_neg (by simpa using hne)]
      exact good_leavesOf _ _ (c.causesOk fun m => ⟨_, ih n m⟩) fun _ => List.cons_ne_nil _ _
  case seq =>
    intro _ rec n k it ih
    rw [recList_eq]
    cases n.isSeqNode
    · exact answerOk_recFail _ _ _
    · refine recElems_answerOk (Admits.self _ (fun _ e => nomatch e) (fun _ e => nomatch e)) fun c hc => ?_
      obtain ⟨x, _, rfl⟩ := List.mem_map.mp hc
      exact ⟨(ih x it).imp fun _ => Admits.seqItem, fun a b h => by cases h; rfl⟩
  case map =>
    intro _ rec n k K V ih
    rw [recDict_eq]
    cases keyTypeOk env K
    · exact answerOk_error _
    · cases n.isMapNode
      · exact answerOk_recFail _ _ _
      · exact recElems_answerOk (Admits.self _ (fun _ e => nomatch e) (fun _ e => nomatch e)) (forall_mapCalls fun p _ =>
          ⟨⟨(ih _ _).imp fun _ => Admits.mapKey, fun a b h => by cases h; rfl⟩,
            ⟨(ih _ _).imp fun _ => Admits.mapVal, fun a b h => by cases h; rfl⟩⟩)
  case cls =>
    intro _ n c r ih
    cases env.isRegistered c
    · exact answerOk_error _
    · exact ih.imp fun t ⟨d, hd, h1, h2⟩ => hd ▸ Admits.cls h1 h2
  case classes =>
    intro _ rec recC n c top ih ihC
    rcases recClasses_cases env rec recC n c top with h | ⟨d, hf, ⟨_, _, _, h⟩ | ⟨sub, causes, hc, ⟨h, _⟩ |
      ⟨_, ha, ⟨_, _, h⟩ | ⟨ts', ls', hu, h⟩⟩⟩⟩ <;> rw [h]
    · exact answerOk_error _
    · exact answerOk_error _
    · refine finishClasses_answerOk (fun t ht => ?_) hc.nodup (hc.causesOk fun s => ⟨_, ihC s⟩)
      obtain ⟨ts', ls', hm, ht'⟩ := (hc.mem t).mp ht
      obtain ⟨s, hs, hr⟩ := List.mem_map.mp hm
      obtain ⟨e, rfl, he, hce⟩ := (ihC s ts' ls' hr).types t ht'
      exact ⟨e, rfl, Descends.step s hs he, hce⟩
    · exact answerOk_error _
    · have hcs := hc.causesOk fun s => ⟨_, ihC s⟩
      have hown := recUserClass_answerOk env n d (Q := ReqOk env (.classes c top))
        ⟨c, congrArg Ty.cls (find_name env c d hf), Descends.refl c, d, hf, ha⟩ (fun v U => ⟨_, ih v U⟩) ts' ls' hu
      refine finishClasses_answerOk hown.types hown.nodup ?_
      rcases ts' with _ | ⟨t, r⟩
      · intro c hc
        rcases List.mem_append.mp hc with hc | hc
        · exact hcs c hc
        · cases List.mem_singleton.mp hc
          exact hown.leaves fun e => nomatch e
      · exact hcs

/-- **Recognition is sound.**  Every type recognised for a node is admitted by the expected type. -/
theorem recognize_admits (env : Env) (fuel : Nat) (n : Node) (T : Ty) (ts : List Ty) (ls : List Leaf)
    (h : recognize env fuel n T = .ok (ts, ls)) : ∀ t ∈ ts, Admits env T t :=
  (recognizeReq_answerOk env fuel n (.ty T) ts ls h).types

def NdOk (r : RecRes) : Prop :=
  match r with
  | .ok (ts, _) => ts.Nodup
  | .error _ => True

/-- **Results are sets.** -/
theorem recognizeReq_nodup (env : Env) : ∀ (fuel : Nat) (n : Node) (q : Req), NdOk (recognizeReq env fuel n q) := by
  intro fuel n q
  cases h : recognizeReq env fuel n q with
  | error e => trivial
  | ok o => exact (recognizeReq_answerOk env fuel n q o.1 o.2 h).nodup

def PosOk (r : RecRes) : Prop :=
  match r with
  | .ok (ts, ls) => ts.length ≠ 1 → Good ls
  | .error _ => True

/-- **Every recognition failure is positioned.** -/
theorem recognizeReq_pos (env : Env) : ∀ (fuel : Nat) (n : Node) (q : Req), PosOk (recognizeReq env fuel n q) := by
  intro fuel n q
  cases h : recognizeReq env fuel n q with
  | error e => trivial
  | ok o => exact (recognizeReq_answerOk env fuel n q o.1 o.2 h).leaves

end YatimlModel
