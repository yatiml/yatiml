import YatimlModel.Lemmas.RecFolds
import YatimlModel.Lemmas.PlainData
/-!
The recogniser (as repaired: element-wise to the end) recognises a node as *some* type exactly when
the node is in the language of the expected type as `Spec.matchesReq` states it — for class models
without custom recognisers and nodes without user tags.
-/
namespace YatimlModel
open NodeOps Spec

def Agrees (r : RecRes) (b : Bool) : Prop := ∀ ts ls, r = .ok (ts, ls) → (ts ≠ [] ↔ b = true)

theorem agrees_recOk (T : Ty) : Agrees (recOk T) true := fun _ _ h =>
  (recOk_eq_ok_iff.mp h).1 ▸ ⟨fun _ => rfl, fun _ => List.cons_ne_nil _ _⟩

theorem agrees_nothing (ls : List Leaf) : Agrees (.ok ([], ls)) false := fun _ _ h => by
  cases h; exact ⟨fun h => (h rfl).elim, fun h => nomatch h⟩

theorem agrees_error (e : Fatal) (b : Bool) : Agrees (.error e) b := fun _ _ h => nomatch h

theorem Agrees.of_nil {r : RecRes} {b : Bool} {ls : List Leaf} (h : Agrees r b) (hr : r = .ok ([], ls)) : b = false :=
  Bool.eq_false_iff.mpr fun hb => (h [] ls hr).mpr hb rfl

theorem recElems_agrees {rec : Node → Ty → RecRes} {T : Ty} {cs : List ElemCall} {m : ElemCall → Bool}
    (h : ∀ c ∈ cs, Agrees (rec c.1 c.2.1) (m c)) : Agrees (recElems rec T none cs) (cs.all m) := by
  intro ts ls hr
  rcases recElems_ok hr with ⟨rfl, c, hc, hr'⟩ | ⟨hall, hres⟩
  · have : cs.all m = false := List.all_eq_false.mpr ⟨c, hc, (h c hc).of_nil hr' ▸ Bool.false_ne_true⟩
    rw [this]
    exact ⟨fun h => (h rfl).elim, fun h => nomatch h⟩
  · have : cs.all m = true := List.all_eq_true.mpr fun c hc => by
      obtain ⟨ts', ls', hr', hne⟩ := hall c hc
      exact (h c hc ts' ls' hr').mp hne
    refine ⟨fun _ => this, fun _ => ?_⟩
    rcases hres with hc | ⟨_, rfl | ⟨c, hc, ts', _, hlen, rfl⟩⟩
    · cases hc
    · exact List.cons_ne_nil _ _
    · exact fun e => by rw [List.map_eq_nil_iff.mp e] at hlen; exact Nat.not_lt_zero _ hlen

theorem Collected.agrees {α : Type} {xs : List α} {f : α → RecRes} {g : α → Bool} {ts : List Ty}
    {causes : List (List Leaf)} (hc : Collected (xs.map f) ts causes) (h : ∀ x ∈ xs, Agrees (f x) (g x)) :
    ts ≠ [] ↔ xs.any g = true := by
  rw [List.any_eq_true]
  constructor
  · intro hne
    obtain ⟨t, ht⟩ := List.exists_mem_of_ne_nil ts hne
    obtain ⟨ts', ls', hm, ht'⟩ := (hc.mem t).mp ht
    obtain ⟨x, hx, hfx⟩ := List.mem_map.mp hm
    exact ⟨x, hx, (h x hx ts' ls' hfx).mp (List.ne_nil_of_mem ht')⟩
  · rintro ⟨x, hx, hg⟩
    obtain ⟨o, ho⟩ := hc.allOk _ (List.mem_map_of_mem hx)
    obtain ⟨t, ht⟩ := List.exists_mem_of_ne_nil o.1 ((h x hx o.1 o.2 ho).mpr hg)
    exact List.ne_nil_of_mem ((hc.mem t).mpr ⟨o.1, o.2, ho ▸ List.mem_map_of_mem hx, ht⟩)

theorem valueVerdict_none_iff {rec : Node → Ty → RecRes} {m : Node → Ty → Bool} {ps : List (Node × Node)} {ty : Ty}
    (hrec : ∀ v ∈ ps.map (·.2), Agrees (rec v ty) (m v ty)) (name : String) {r : Option (List Leaf)}
    (h : valueVerdict rec ps ty name = .ok r) : (r = none ↔ valueMatches m ps ty name = true) := by
  unfold valueMatches
  rcases valueVerdict_cases rec ps ty name with h' | ⟨v, hv, ⟨_, _, h'⟩ | ⟨ls, hr, h'⟩ | ⟨ts, ls, hr, hne, h'⟩⟩ <;>
    rw [h'] at h <;> cases h <;> rw [hv]
  · show some ls = none ↔ m v ty = true
    rw [(hrec v (mem_of_valuesOf hv)).of_nil hr]
    exact ⟨nofun, nofun⟩
  · exact ⟨fun _ => (hrec v (mem_of_valuesOf hv) ts ls hr).mp hne, fun _ => rfl⟩

theorem recAttr_none_iff {rec : Node → Ty → RecRes} {m : Node → Ty → Bool} {n : Node} {ps : List (Node × Node)}
    {p : Param} (hrec : ∀ v ∈ ps.map (·.2), Agrees (rec v p.ty) (m v p.ty))
    {r : Option (List Leaf)} (h : recAttr rec n ps p = .ok r) : (r = none ↔ attrMatches m ps p = true) := by
  revert h
  rw [recAttr_eq]
  unfold attrMatches
  cases hasKey ps p.name with
  | true => exact valueVerdict_none_iff hrec p.name
  | false =>
    cases hasKey ps (dashed p.name) with
    | true => exact valueVerdict_none_iff hrec (dashed p.name)
    | false =>
      cases p.required <;> intro h <;> cases h
      · exact ⟨fun _ => rfl, fun _ => rfl⟩
      · exact ⟨nofun, nofun⟩

theorem recAttrs_none_iff {rec : Node → Ty → RecRes} {m : Node → Ty → Bool} {n : Node} {ps : List (Node × Node)}
    (hrec : ∀ v ∈ ps.map (·.2), ∀ U, Agrees (rec v U) (m v U)) {params : List Param} {r : Option (List Leaf)}
    (h : recAttrs rec n ps params = .ok r) : (r = none ↔ params.all (attrMatches m ps) = true) := by
  rw [recAttrs_eq] at h
  cases r with
  | none =>
    refine ⟨fun _ => List.all_eq_true.mpr fun p hp => ?_, fun _ => rfl⟩
    exact (recAttr_none_iff (fun v hv => hrec v hv p.ty) (firstSome_none.mp h _ (List.mem_map_of_mem hp))).mp rfl
  | some ls =>
    obtain ⟨p, hp, hr⟩ := List.mem_map.mp (firstSome_mem h nofun)
    refine ⟨fun e => (nomatch e), fun hall => ?_⟩
    exact (recAttr_none_iff (fun v hv => hrec v hv p.ty) hr).mpr (List.all_eq_true.mp hall p hp)

theorem agrees_ite (b : Bool) (T : Ty) (m : List Mark) (k : List String) :
    Agrees (if b = true then recOk T else recFail m k) b := by
  cases b
  · exact agrees_nothing _
  · exact agrees_recOk T

theorem recUserClass_agrees {env : Env} {rec : Node → Ty → RecRes} {m : Node → Ty → Bool} {n : Node} {d : ClassDef}
    (hauto : d.recognize = none) (hrec : ∀ v ∈ n.pairs.map (·.2), ∀ U, Agrees (rec v U) (m v U)) :
    Agrees (recUserClass env rec n d) (classMatches m d n) := by
  unfold recUserClass classMatches
  rw [hauto]
  cases d.kind with
  | plain =>
    cases n with
    | map t ps mk =>
      dsimp only
      cases h : recAttrs rec (.map t ps mk) ps.toList d.params with
      | error e => exact agrees_error _ _
      | ok r =>
        have := recAttrs_none_iff (ps := ps.toList) hrec h
        cases r with
        | none => rw [this.mp rfl]; exact agrees_recOk _
        | some ls => rw [Bool.eq_false_iff.mpr fun hb => nomatch this.mpr hb]; exact agrees_nothing ls
    | _ => exact agrees_nothing _
  | _ =>
    cases n with
    | scalar => exact agrees_ite _ _ _ _
    | _ => exact agrees_nothing _

theorem finishClasses_core {env : Env} {n : Node} {top : Bool} {ts0 ts : List Ty} {causes : List (List Leaf)}
    {ls : List Leaf} (hcore : hasPrefix corePrefix n.tag = true)
    (h : finishClasses env n top ts0 causes = .ok (ts, ls)) : ts = ts0 := by
  rcases finishClasses_cases env n top ts0 causes with ⟨_, h', _⟩ | ⟨d, hd, _⟩ | ⟨hu, _⟩
  · rw [h'] at h; cases h; rfl
  · rw [byTag_core env n.tag hcore] at hd; cases hd
  · rw [core_short n.tag hcore] at hu; cases hu

theorem matchesReq_leaf (env : Env) (k : Nat) (n : Node) {T : Ty} {tag : String} (h : leafTag T = some tag) :
    matchesReq env (k + 1) n (.ty T) = scalarTagged n tag := by
  cases T <;> cases h <;> rfl

theorem matchesReq_seq (env : Env) (k : Nat) (n : Node) (kd : SeqKind) (it : Ty) :
    matchesReq env (k + 1) n (.ty (.seq kd it)) =
      (n.isSeqNode && (seqCalls it n.items).all fun c => matchesReq env k c.1 (.ty c.2.1)) := by
  cases n with
  | seq t xs m =>
    rw [seqCalls, List.all_map]
    rfl
  | _ => rfl

theorem matchesReq_map (env : Env) (k : Nat) (n : Node) (kd : MapKind) (K V : Ty) :
    matchesReq env (k + 1) n (.ty (.map kd K V)) =
      (keyTypeOk env K && (n.isMapNode && (mapCalls K V n.pairs).all fun c => matchesReq env k c.1 (.ty c.2.1))) := by
  cases n with
  | map t ps m =>
    rw [mapCalls, List.all_flatMap]
    simp only [List.all_cons, List.all_nil, Bool.and_true]
    rfl
  | _ => rfl

theorem matchesReq_classes (env : Env) (k : Nat) (n : Node) {c : String} {d : ClassDef} (top : Bool)
    (hf : env.find c = some d) :
    matchesReq env (k + 1) n (.classes c top) =
      ((env.directSubclasses c).any (fun s => matchesReq env k n (.classes s.name false)) ||
       (!d.abstract && classMatches (fun x U => matchesReq env k x (.ty U)) d n)) := by
  conv => lhs; unfold matchesReq
  rw [hf]

def AutoRecognised (env : Env) : Prop := ∀ d ∈ env.registered, d.recognize = none

theorem recognizeReq_agrees (env : Env) (hauto : AutoRecognised env) : ∀ (fuel : Nat) (n : Node) (q : Req),
    AllCore n → Agrees (recognizeReq env fuel n q) (matchesReq env fuel n q) := by
  apply recognizeReq_induct (P := fun k n q r => AllCore n → Agrees r (matchesReq env k n q))
  case fuel => intro _ _ _; exact agrees_error _ _
  case scalar =>
    intro k n T tag hT _
    rw [matchesReq_leaf env k n hT, recScalar_eq]
    exact agrees_ite _ _ _ _
  case any => intro _ _ _; exact agrees_recOk _
  case union =>
    intro k rec n ms ih hcore ts ls h
    obtain ⟨ts0, causes, c, rfl, rfl⟩ := recUnion_ok h
    rw [dropBoolFix_ne]
    exact c.agrees fun m _ => ih n m hcore
  case seq =>
    intro k rec n kd it ih hcore
    rw [matchesReq_seq, recList_eq]
    cases hs : n.isSeqNode with
    | false => exact agrees_nothing _
    | true =>
      refine recElems_agrees fun c hc => ?_
      obtain ⟨x, hx, rfl⟩ := List.mem_map.mp hc
      cases n with
      | seq t xs m => exact ih x it ((allCoreL_iff xs).mp hcore.2 x hx)
      | _ => cases hs
  case map =>
    intro k rec n kd K V ih hcore
    rw [matchesReq_map, recDict_eq]
    cases keyTypeOk env K with
    | false => exact agrees_error _ _
    | true =>
      cases hs : n.isMapNode with
      | false => exact agrees_nothing _
      | true =>
        refine recElems_agrees (forall_mapCalls fun p hp => ?_)
        cases n with
        | map t ps m =>
          have := (allCoreP_iff ps).mp hcore.2 p hp
          exact ⟨ih _ _ this.1, ih _ _ this.2⟩
        | _ => cases hs
  case cls =>
    intro k n c r ih hcore
    unfold matchesReq
    dsimp only
    cases env.isRegistered c with
    | false => exact agrees_error _ _
    | true => exact ih hcore
  case classes =>
    intro k rec recC n c top ih ihC hcore ts ls h
    have htag := node_tag_core n hcore
    rcases recClasses_cases env rec recC n c top with h' | ⟨d, hf, ⟨_, _, _, h'⟩ | ⟨sub, causes, hc, ⟨h', habs⟩ |
      ⟨rfl, ha, ⟨_, _, h'⟩ | ⟨ts', ls', hu, h'⟩⟩⟩⟩ <;> rw [h'] at h
    · cases h
    · cases h
    · have hsub := hc.agrees fun s _ => ihC s hcore
      cases finishClasses_core htag h
      rw [matchesReq_classes env k n top hf, hsub]
      by_cases hb : (env.directSubclasses c).any (fun s => matchesReq env k n (.classes s.name false)) = true
      · rw [hb]; rfl
      · have := habs (Classical.not_not.mp fun hne => hb (hsub.mp hne))
        rw [Bool.eq_false_iff.mpr hb, this]; rfl
    · cases h
    · have hsub := hc.agrees fun s _ => ihC s hcore
      cases finishClasses_core htag h
      rw [matchesReq_classes env k n top hf, Bool.eq_false_iff.mpr fun hb => hsub.mpr hb rfl, ha]
      refine recUserClass_agrees (hauto d (find_mem env c d hf)) (fun v hv U => ih v U ?_) ts ls' hu
      cases n with
      | map t ps m =>
        obtain ⟨p, hp, rfl⟩ := List.mem_map.mp hv
        exact ((allCoreP_iff ps).mp hcore.2 p hp).2
      | _ => cases hv

/-- **Recognition is exactly the documented language membership.**  For a class model without custom
recognisers and a node without user tags: whenever recognition returns (no `SeasoningError` for a
repeated key, no unregistered class in the type), it recognises the node as at least one type if and
only if the node matches the expected type as `Spec.matchesReq` defines it. -/
theorem recognizeReq_iff_matches (env : Env) (hauto : AutoRecognised env) :
    ∀ (fuel : Nat) (n : Node) (q : Req) (ts : List Ty) (ls : List Leaf), AllCore n →
      recognizeReq env fuel n q = .ok (ts, ls) → (ts ≠ [] ↔ matchesReq env fuel n q = true) :=
  fun fuel n q ts ls hcore h => recognizeReq_agrees env hauto fuel n q hcore ts ls h

end YatimlModel
