import YatimlModel.Spec.JsonParse
import YatimlModel.Lemmas.JsonText
import YatimlModel.Lemmas.JsonStringLemmas
/-!
The reference parser of `Spec/JsonParse` reads back what the models write: the string token of `json.dumps`
as modelled in `Model/JsonString` (`parseStrBody_dumps`), and, for every tree, indent configuration and line
break, the text of the recursive renderer, which the emitter machine refines (`parse_all`).
-/
namespace YatimlModel.JsonParse
open YatimlModel.JsonString YatimlModel.Json

theorem hexVal_hexDigit : ∀ n, n < 16 → hexVal (hexDigit n) = some n := by decide

theorem hex4Val_hex4 (n : Nat) (h : n < 65536) :
    hex4Val (hexDigit (n / 4096 % 16)) (hexDigit (n / 256 % 16)) (hexDigit (n / 16 % 16))
      (hexDigit (n % 16)) = some n := by
  simp only [hex4Val, hexVal_hexDigit _ (Nat.mod_lt _ (Nat.zero_lt_succ 15)), Option.some.injEq]
  -- the digits of `n / 16 / 16 / 16` (which is below 16), `n / 16 / 16`, `n / 16` and `n`;
  -- `omega` on the four quotients as they stand costs ten times this
  rw [← Nat.div_div_eq_div_mul n 256 16, ← Nat.div_div_eq_div_mul n 16 16,
    Nat.mod_eq_of_lt (Nat.div_lt_of_lt_mul (Nat.div_lt_of_lt_mul (Nat.div_lt_of_lt_mul h))),
    Nat.div_add_mod', Nat.div_add_mod', Nat.div_add_mod']

theorem parse_uEsc (f n : Nat) (r : List Nat) (h : n < 65536) (hn : ¬ (55296 ≤ n ∧ n ≤ 56319)) :
    parseStrBody (f + 1) (uEsc n ++ r) = consTo n (parseStrBody f r) := by
  rw [parseStrBody.eq_def]
  simp [uEsc, hex4, hex4Val_hex4 n h, lowSurr, hn]

theorem parse_surrogates (f : Nat) (r : List Nat) {hi lo : Nat} (hh : hi < 1024) (hl : lo < 1024) :
    parseStrBody (f + 1) (uEsc (55296 + hi) ++ (uEsc (56320 + lo) ++ r))
      = consTo (65536 + hi * 1024 + lo) (parseStrBody f r) := by
  have hh' : 55296 + hi ≤ 56319 := by omega
  have hl' : 56320 + lo ≤ 57343 := by omega
  rw [parseStrBody.eq_def]
  simp [uEsc, hex4, lowSurr, hex4Val_hex4 (55296 + hi) (by omega),
    hex4Val_hex4 (56320 + lo) (by omega), hh', hl']

theorem parse_esc {a : Bool} {c : Nat} {l : List Nat} (h : EscShape a c l) (hc : IsScalarValue c) (f : Nat)
    (r : List Nat) :
    parseStrBody (f + 1) (l ++ r) = consTo c (parseStrBody f r) := by
  unfold IsScalarValue at hc
  cases h with
  | short e he =>
    obtain ⟨h1, h2⟩ :=
      (by decide : ∀ p ∈ shortTable, unescLetter p.2 = some p.1 ∧ p.2 ≠ 117) (c, e) (shortEsc_mem he)
    rw [parseStrBody.eq_def]
    simp only [List.cons_append, List.nil_append, Nat.reduceEqDiff, ↓reduceIte, h2, h1]
  | plain h1 h2 h3 _ =>
    rw [parseStrBody.eq_def]
    simp [h1, h2, h3]
  | u hlt => exact parse_uEsc f c r hlt (by omega)
  | pair hge =>
    -- the two ten-bit halves of `d = c - 0x10000` put together again
    obtain ⟨d, rfl⟩ := Nat.exists_eq_add_of_le hge
    have hd : d / 1024 < 1024 := Nat.div_lt_of_lt_mul (by omega)
    rw [Nat.add_sub_cancel_left, List.append_assoc,
      parse_surrogates f r (Nat.mod_lt _ (by decide)) (Nat.mod_lt _ (by decide)),
      Nat.mod_eq_of_lt hd, Nat.add_assoc, Nat.div_add_mod']

theorem parse_flatMap (a : Bool) (s : List Nat) (f : Nat) (rest : List Nat)
    (hs : ∀ c ∈ s, IsScalarValue c) (hf : s.length ≤ f) :
    parseStrBody (f + 1) (s.flatMap (if a then escAscii else escUni) ++ 34 :: rest) = some (s, rest) := by
  induction s generalizing f with
  | nil => rfl
  | cons c s ih =>
    obtain ⟨f, rfl⟩ := Nat.exists_eq_add_one.mpr (Nat.lt_of_lt_of_le s.length.succ_pos hf)
    rw [List.forall_mem_cons] at hs
    rw [List.flatMap_cons, List.append_assoc, parse_esc (esc_shape a c) hs.1,
      ih f hs.2 (Nat.le_of_succ_le_succ hf)]
    rfl

/-- **The string token `json.dumps` writes denotes the string.**  For every sequence of Unicode
scalar values and both `ensure_ascii` settings, reading the body of the token (escapes, `\uXXXX`,
surrogate pairs) gives back the code points, and stops right after the closing quotation mark. -/
theorem parseStrBody_dumps (a : Bool) (s : List Nat) (rest : List Nat) (f : Nat)
    (hs : ∀ c ∈ s, IsScalarValue c) (hf : s.length + 1 ≤ f) :
    ∃ body, dumps a s ++ rest = 34 :: body ∧ parseStrBody f body = some (s, rest) := by
  obtain ⟨k, rfl⟩ := Nat.exists_eq_add_of_le' hf
  exact ⟨_, by simp [dumps], parse_flatMap a s _ rest hs (Nat.le_add_left _ k)⟩

theorem esc_length {a : Bool} {c : Nat} {l : List Nat} (h : EscShape a c l) : 1 ≤ l.length := by
  cases h <;> exact Nat.zero_lt_succ _

theorem length_le_flatMap (a : Bool) (s : List Nat) :
    s.length ≤ (s.flatMap (if a then escAscii else escUni)).length := by
  induction s with
  | nil => simp
  | cons c s ih =>
    rw [List.flatMap_cons, List.length_append, List.length_cons, Nat.add_comm]
    exact Nat.add_le_add (esc_length (esc_shape a c)) ih

/-- the same with the fuel `parseValue` and `parseMembers` supply: the length of what follows the
opening quotation mark -/
theorem dumps_token (a : Bool) (s rest : List Nat) (hs : ∀ c ∈ s, IsScalarValue c) :
    ∃ body, dumps a s ++ rest = 34 :: body ∧ parseStrBody (body.length + 1) body = some (s, rest) := by
  refine ⟨_, by simp [dumps], parse_flatMap a s _ rest hs ?_⟩
  rw [List.length_append]
  exact Nat.le_trans (length_le_flatMap a s) (Nat.le_add_right _ _)

section
variable {w : List Nat} (hw : AllWs w)
include hw

theorem skipWs_append_ws (x : List Nat) : skipWs (w ++ x) = skipWs x := by
  induction w with
  | nil => rfl
  | cons c w ih =>
    obtain ⟨hc, hw⟩ := List.forall_mem_cons.mp hw
    simp only [List.cons_append, skipWs, hc, ↓reduceIte]
    exact ih hw

theorem skipWs_ws_cons {c : Nat} (hc : isWs c = false) (r : List Nat) : skipWs (w ++ c :: r) = c :: r := by
  simp [skipWs_append_ws hw, skipWs, hc]

theorem parseValue_ws (f : Nat) (cs : List Nat) : parseValue f (w ++ cs) = parseValue f cs := by
  cases f with
  | zero => rfl
  | succ f =>
    unfold parseValue
    rw [skipWs_append_ws hw]

theorem parseElems_ws (f : Nat) (cs : List Nat) : parseElems f (w ++ cs) = parseElems f cs := by
  cases f with
  | zero => rfl
  | succ f =>
    unfold parseElems
    rw [parseValue_ws hw]

theorem parseMembers_ws (f : Nat) (cs : List Nat) : parseMembers f (w ++ cs) = parseMembers f cs := by
  cases f with
  | zero => rfl
  | succ f =>
    unfold parseMembers
    rw [skipWs_append_ws hw]
end

theorem skipWs_cons_nonws (c : Nat) (r : List Nat) (h : isWs c = false) : skipWs (c :: r) = c :: r := by
  simp [skipWs, h]

/-- what follows a number must not continue it -/
def StopsNum (rest : List Nat) : Prop := (rest.head?.all fun c => !isNumChar c) = true

theorem isWs_not_num (c : Nat) (h : isWs c = true) : isNumChar c = false := by
  simp only [isWs, Bool.or_eq_true, beq_iff_eq] at h
  rcases h with ((h | h) | h) | h <;> subst h <;> decide

theorem StopsNum.ws_append {w x : List Nat} (hw : AllWs w) (hx : StopsNum x) : StopsNum (w ++ x) := by
  cases w with
  | nil => exact hx
  | cons c w => simp [StopsNum, isWs_not_num c (hw c (by simp))]

theorem spanNum_all (cs rest : List Nat) (h : ∀ c ∈ cs, isNumChar c = true) (hr : StopsNum rest) :
    spanNum (cs ++ rest) = (cs, rest) := by
  induction cs with
  | nil =>
    cases rest with
    | nil => rfl
    | cons c r => simpa [spanNum, StopsNum] using hr
  | cons c cs ih =>
    obtain ⟨hc, h⟩ := List.forall_mem_cons.mp h
    simp [spanNum, hc, ih h]

theorem parse_string_token (a : Bool) (s rest : List Nat) (fuel : Nat) (hs : ∀ c ∈ s, IsScalarValue c) :
    parseValue (fuel + 1) (JsonString.dumps a s ++ rest) = some (JV.str s, rest) := by
  obtain ⟨body, hb, hp⟩ := dumps_token a s rest hs
  simp only [hb, parseValue, skipWs_cons_nonws 34 _ (by decide), ↓reduceIte, hp]

theorem parse_scalar (f : TextFns) (a : Bool) (hd : DumpsIs f a) (k : SK) (v : String)
    (rest : List Nat) (fuel : Nat) (hw : WfScalar f k v) (hr : StopsNum rest) :
    parseValue (fuel + 1) (codes (scalarText f k v) ++ rest) = some (scalarJV f k v, rest) := by
  cases k with
  | str | timestamp =>
    simp only [scalarText, scalarJV, hd v]; exact parse_string_token a _ rest fuel (codes_scalar v)
  | null =>
    simp [scalarText, scalarJV, codes, parseValue, skipWs, isWs]
  | bool =>
    simp only [WfScalar] at hw
    -- `-BEq.rfl`: on `"true" == "true"` it starts a search for `ReflBEq String`; `String.reduceBEq` decides it
    rcases hw with h | h <;> simp [-BEq.rfl, scalarText, scalarJV, h, codes, parseValue, skipWs, isWs]
  | other =>
    obtain ⟨hne, hall, hm⟩ := hw
    simp only [scalarText, scalarJV]
    cases hcs : codes v with
    | nil => exact absurd hcs hne
    | cons c r =>
      have hc : isNumChar c = true := hall c (by simp [hcs])
      -- a number character is none of the characters `parseValue` looks for first
      have ne : ∀ k, isNumChar k = false → c ≠ k := fun k hk e => by rw [e, hk] at hc; cases hc
      have h0 : isWs c = false := by
        cases h : isWs c with
        | false => rfl
        | true => rw [isWs_not_num c h] at hc; cases hc
      have hsp := spanNum_all (codes v) rest hall hr
      rw [hcs] at hsp hm
      simp only [List.cons_append] at hsp
      simp only [List.cons_append, parseValue, skipWs_cons_nonws c _ h0, ne 34 (by decide), ne 91 (by decide),
        ne 123 (by decide), ne 116 (by decide), ne 102 (by decide), ne 110 (by decide), hc, ↓reduceIte,
        hsp, hm]

theorem parseValue_head {f : Nat} {cs : List Nat} {p : JV × List Nat} (h : parseValue f cs = some p) :
    ∃ c r, skipWs cs = c :: r ∧ c ≠ 93 ∧ c ≠ 125 := by
  cases f with
  | zero => cases h
  | succ f =>
    unfold parseValue at h
    split at h
    · cases h
    · rename_i c r hs
      -- at a closing bracket every test of `parseValue` fails
      exact ⟨c, r, hs, (fun e => by subst e; cases h), fun e => by subst e; cases h⟩

/-- no side condition: that the elements parse tells that the array is not the empty one -/
theorem parseValue_arr {f : Nat} {r : List Nat} {xs : JVs} {r' : List Nat}
    (he : parseElems f r = some (xs, r')) : parseValue (f + 1) (91 :: r) = some (JV.arr xs, r') := by
  cases f with
  | zero => simp [parseElems] at he
  | succ f =>
    cases hv : parseValue f r with
    | none => simp [parseElems, hv] at he
    | some p =>
      obtain ⟨c2, r2, hs, hc, _⟩ := parseValue_head hv
      simp [parseValue, skipWs_cons_nonws 91 r (by decide), hs, hc, he]

theorem parseValue_obj {f : Nat} {r : List Nat} {kvs : JKVs} {r' : List Nat}
    (he : parseMembers f r = some (kvs, r')) : parseValue (f + 1) (123 :: r) = some (JV.obj kvs, r') := by
  cases f with
  | zero => cases he
  | succ f =>
    have he' := he
    unfold parseMembers at he'
    split at he'
    · rename_i c r2 hs
      have hc : c ≠ 125 := fun e => by subst e; simp at he'
      simp [parseValue, skipWs_cons_nonws 123 r (by decide), hs, hc, he]
    · cases he'

theorem parseMembers_member {fns : TextFns} {a : Bool} (hd : DumpsIs fns a) (s : String) {f : Nat}
    {w tail : List Nat} (hw : AllWs w) {v : JV} {r3 r4 r5 : List Nat} {kvs : JKVs}
    (hv : parseValue f tail = some (v, r3))
    (hend : (skipWs r3 = 125 :: r4 ∧ kvs = .nil ∧ r5 = r4) ∨
      (skipWs r3 = 44 :: r4 ∧ parseMembers f r4 = some (kvs, r5))) :
    parseMembers (f + 1) (codes (fns.dumps s) ++ (58 :: (w ++ tail))) = some (JKVs.cons (codes s) v kvs, r5) := by
  rw [hd s]
  obtain ⟨body, hb, hp⟩ := dumps_token a (codes s) (58 :: (w ++ tail)) (codes_scalar s)
  rw [← parseValue_ws hw] at hv
  rcases hend with ⟨h3, rfl, rfl⟩ | ⟨h3, hm⟩ <;>
    simp [parseMembers, skipWs_cons_nonws 34 body (by decide), skipWs_cons_nonws 58 (w ++ tail) (by decide), *]

theorem sz_pos (t : JT) : 1 ≤ sz t := by cases t <;> simp [sz]

-- the fuel steps of `parse_all`: `sz`, `szL`, `szK` of a constructor unfold to these sums
theorem fuel_inner {n f : Nat} (h : 1 + n ≤ f + 1) : n ≤ f := by omega
theorem fuel_parts {a b f : Nat} (h : 1 + a + b ≤ f + 1) : a ≤ f ∧ b ≤ f := by omega

section main
variable (cfg : Cfg) (a : Bool) (lb : String)

def PT (fuel : Nat) : Prop := ∀ (t : JT) (ind : Nat) (rest : List Nat),
  WfT cfg.fns t → sz t ≤ fuel → StopsNum rest →
  parseValue fuel (codesOf lb (rT cfg ind t) ++ rest) = some (toJV cfg.fns t, rest)

/-- `w2`, here and in `PK`: the white space before the closing bracket -/
def PL (fuel : Nat) : Prop := ∀ (x : JT) (xs : JL) (ind : Nat) (w2 rest : List Nat),
  WfT cfg.fns x → WfL cfg.fns xs → AllWs w2 → 1 + sz x + szL xs ≤ fuel →
  parseElems fuel (codesOf lb (rT cfg ind x) ++ (codesOf lb (rL cfg ind false xs) ++ (w2 ++ 93 :: rest)))
    = some (JVs.cons (toJV cfg.fns x) (toJVs cfg.fns xs), rest)

def PK (fuel : Nat) : Prop := ∀ (s : String) (v : JT) (kvs : JKL) (ind : Nat) (w2 rest : List Nat),
  WfT cfg.fns v → WfK cfg.fns kvs → AllWs w2 → 1 + sz v + szK kvs ≤ fuel →
  parseMembers fuel (codesOf lb (rT cfg ind (JT.scalar SK.str s)) ++ (codes cfg.kvsep ++
      (codesOf lb (rT cfg ind v) ++ (codesOf lb (rK cfg ind false kvs) ++ (w2 ++ 125 :: rest)))))
    = some (JKVs.cons (codes s) (toJV cfg.fns v) (toJKVs cfg.fns kvs), rest)

theorem parse_all (hd : DumpsIs cfg.fns a) (hk : WfCfg cfg) (hlb : AllWs (codes lb)) (fuel : Nat) :
    PT cfg lb fuel ∧ PL cfg lb fuel ∧ PK cfg lb fuel := by
  induction fuel with
  | zero => exact ⟨fun t _ _ _ hs _ => by have := sz_pos t; omega,
      fun _ _ _ _ _ _ _ _ hs => by omega, fun _ _ _ _ _ _ _ _ _ hs => by omega⟩
  | succ f ih =>
    obtain ⟨ihT, ihL, ihK⟩ := ih
    have hE := allWs_endl cfg lb hlb
    refine ⟨?_, ?_, ?_⟩
    · intro t ind rest hw hs hr
      cases t with
      | scalar k v =>
        simp only [rT, json_text]
        exact parse_scalar cfg.fns a hd k v rest f hw hr
      | arr xs =>
        cases xs with
        | nil => simp [rT, toJV, toJVs, rL, parseValue, skipWs, isWs, skipWs_append_ws (hE _)]
        | cons x xs' =>
          simp only [rT, rL, toJV, toJVs, ↓reduceIte, json_text]
          apply parseValue_arr
          rw [parseElems_ws (hE _)]
          exact ihL x xs' (ind + cfg.best) _ rest hw.1 hw.2 (hE _) (fuel_inner hs)
      | obj kvs =>
        simp only [rT, toJV, json_text]
        cases kvs with
        | nil => simp [toJKVs, rK, parseValue, skipWs, isWs, skipWs_append_ws (hE _)]
        | cons k v kvs' =>
          obtain ⟨⟨s, rfl⟩, hv, hkvs⟩ := hw
          simp only [rK, ↓reduceIte, toJKVs, keyOf, cc_punct, json_text]
          apply parseValue_obj
          rw [parseMembers_ws (hE _)]
          exact ihK s v kvs' (ind + cfg.best) _ rest hv hkvs (hE _) (fuel_inner hs)
    · intro x xs ind w2 rest hx hxs hw2 hs
      unfold parseElems
      cases xs with
      | nil =>
        simp only [rL, toJVs, json_text, skipWs_ws_cons hw2 (c := 93) (by decide),
          ihT x ind (w2 ++ 93 :: rest) hx (fuel_parts hs).1 (StopsNum.ws_append hw2 rfl), ↓reduceIte]
      | cons x' xs' =>
        simp only [rL, Bool.false_eq_true, ↓reduceIte, toJVs, json_text]
        rw [ihT x ind _ hx (fuel_parts hs).1]
        · simp [skipWs, isWs, parseElems_ws (hE _), ihL x' xs' ind w2 rest hxs.1 hxs.2 hw2 (fuel_parts hs).2]
        · rfl
    · intro s v kvs ind w2 rest hv hkvs hw2 hs
      obtain ⟨w3, hk58, hw3⟩ : ∃ w, codes cfg.kvsep = 58 :: w ∧ AllWs w := by
        unfold WfCfg at hk
        rw [hk]
        split
        · exact ⟨[32], by decide, by intro c hc; cases List.mem_singleton.mp hc; rfl⟩
        · exact ⟨[], by decide, AllWs.nil⟩
      simp only [rT, scalarText, hk58, json_text]
      cases kvs with
      | nil =>
        simp only [rK, toJKVs, json_text]
        exact parseMembers_member hd s hw3 (ihT v ind _ hv (fuel_parts hs).1 (StopsNum.ws_append hw2 rfl))
          (.inl ⟨skipWs_ws_cons hw2 (by decide) rest, rfl, rfl⟩)
      | cons k' v' kvs' =>
        obtain ⟨⟨s', rfl⟩, hv', hkvs'⟩ := hkvs
        simp only [rK, Bool.false_eq_true, ↓reduceIte, toJKVs, keyOf, json_text]
        simp only [cc_punct]
        refine parseMembers_member hd s hw3 (ihT v ind _ hv (fuel_parts hs).1 (by rfl))
          (.inr ⟨skipWs_cons_nonws 44 _ (by decide), ?_⟩)
        rw [parseMembers_ws (hE _)]
        exact ihK s' v' kvs' ind w2 rest hv' hkvs' hw2 (fuel_parts hs).2

end main

/-! ### the text is at least as long as the tree is big (so `parseJson`'s fuel suffices) -/

mutual
theorem lenT (cfg : Cfg) (a : Bool) (hd : DumpsIs cfg.fns a) (lb : String) :
    ∀ (t : JT) (ind : Nat), WfT cfg.fns t → sz t ≤ (codesOf lb (rT cfg ind t)).length
  | .scalar k v, ind, hw => by
    -- a text that parses as a value is not empty
    obtain ⟨c, r, hs, _⟩ := parseValue_head (parse_scalar cfg.fns a hd k v [] 0 hw rfl)
    cases hcs : codes (scalarText cfg.fns k v) with
    | nil => rw [hcs] at hs; cases hs
    | cons _ _ => simp [sz, rT, hcs]
  | .arr xs, ind, hw => by
    have := lenL cfg a hd lb xs (ind + cfg.best) true hw
    simp [sz, rT] at this ⊢
    omega
  | .obj kvs, ind, hw => by
    have := lenK cfg a hd lb kvs (ind + cfg.best) true hw
    simp [sz, rT]
    omega
theorem lenL (cfg : Cfg) (a : Bool) (hd : DumpsIs cfg.fns a) (lb : String) :
    ∀ (xs : JL) (ind : Nat) (first : Bool), WfL cfg.fns xs →
      szL xs ≤ (codesOf lb (rL cfg ind first xs)).length + (if first = true then 1 else 0)
  | .nil, _, _, _ => Nat.zero_le _
  | .cons x xs, ind, first, hw => by
    have h1 := lenT cfg a hd lb x ind hw.1
    have h2 := lenL cfg a hd lb xs ind false hw.2
    cases first <;> simp [szL, rL] at h2 ⊢ <;> omega
theorem lenK (cfg : Cfg) (a : Bool) (hd : DumpsIs cfg.fns a) (lb : String) :
    ∀ (kvs : JKL) (ind : Nat) (first : Bool), WfK cfg.fns kvs →
      szK kvs ≤ (codesOf lb (rK cfg ind first kvs)).length
  | .nil, _, _, _ => Nat.zero_le _
  | .cons k v rest, ind, first, hw => by
    obtain ⟨hk, hv, hr⟩ := hw
    -- the call is on `k` itself, not on the `JT.scalar SK.str s` it equals: only so is the recursion structural
    have h0 := lenT cfg a hd lb k ind (by obtain ⟨s, rfl⟩ := hk; trivial)
    have h1 := lenT cfg a hd lb v ind hv
    have h2 := lenK cfg a hd lb rest ind false hr
    have := sz_pos k
    simp [szK, rK]
    omega
end

end YatimlModel.JsonParse

