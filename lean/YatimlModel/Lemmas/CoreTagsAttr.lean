import Lean.Meta.Tactic.Simp.RegisterCommand
/-- the core-schema tags as `coreTag name`, and what follows from that form -/
register_simp_attr core_tags
