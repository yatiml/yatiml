import YatimlModel.Spec.JsonParse
import YatimlModel.Model.Json
import YatimlModel.Model.JsonString
import YatimlModel.Lemmas.JsonTextAttr
/-!
The text of a rendered tree as code points, what a tree must satisfy for its text to be a JSON text
(`WfT`) and the JSON value it then denotes (`toJV`); and what the renderer writes, chunk by chunk
(`Piece`, `piece_rT`).  The parser enters in `Lemmas/JsonParse`.
-/
namespace YatimlModel.JsonParse
open YatimlModel.Json

/-- a Unicode scalar value: a code point that is not a surrogate (what a Lean `Char`, and every
character of a well-formed Python `str`, is) -/
def IsScalarValue (c : Nat) : Prop := c < 55296 ∨ (57343 < c ∧ c < 1114112)

-- `codes` (the code points of a string) is `YatimlModel.codes` of `Model/Regex`
def chunkCodes (lb : String) (c : Chunk) : List Nat := codes (c.text lb)
def codesOf (lb : String) (cs : List Chunk) : List Nat := cs.flatMap (chunkCodes lb)

theorem codes_append (a b : String) : codes (a ++ b) = codes a ++ codes b := by
  simp [codes, String.toList_append]

@[simp] theorem codesOf_nil (lb : String) : codesOf lb [] = [] := rfl
@[simp] theorem codesOf_cons (lb : String) (c : Chunk) (cs : List Chunk) :
    codesOf lb (c :: cs) = chunkCodes lb c ++ codesOf lb cs := by simp [codesOf]
@[simp] theorem codesOf_append (lb : String) (a b : List Chunk) :
    codesOf lb (a ++ b) = codesOf lb a ++ codesOf lb b := by simp [codesOf]

theorem codes_textOf_acc (lb : String) (cs : List Chunk) (acc : String) :
    codes (cs.foldl (fun acc c => acc ++ c.text lb) acc) = codes acc ++ codesOf lb cs := by
  induction cs generalizing acc with
  | nil => simp
  | cons c cs ih => simp [ih, codes_append, chunkCodes]

theorem codes_textOf (lb : String) (cs : List Chunk) : codes (textOf lb cs) = codesOf lb cs := by
  unfold textOf
  rw [codes_textOf_acc]
  simp [codes]

theorem codes_scalar (s : String) : ∀ c ∈ codes s, IsScalarValue c := by
  intro c hc
  simp only [codes, List.mem_map] at hc
  obtain ⟨ch, _, rfl⟩ := hc
  exact ch.valid

def AllWs (w : List Nat) : Prop := ∀ c ∈ w, isWs c = true

theorem AllWs.nil : AllWs [] := by intro c hc; cases hc
theorem AllWs.append {a b : List Nat} (ha : AllWs a) (hb : AllWs b) : AllWs (a ++ b) :=
  List.forall_mem_append.mpr ⟨ha, hb⟩

theorem cc_nl (lb : String) (n : Nat) : chunkCodes lb (.nl n) = codes lb ++ List.replicate n 32 := by
  simp [chunkCodes, Chunk.text, codes, String.toList_ofList]

theorem allWs_endl (cfg : Cfg) (lb : String) (hlb : AllWs (codes lb)) (n : Nat) :
    AllWs (codesOf lb (endl cfg n)) := by
  unfold endl
  split
  · simp only [codesOf_cons, codesOf_nil, List.append_nil, cc_nl]
    exact AllWs.append hlb fun c hc => by cases List.eq_of_mem_replicate hc; rfl
  · exact AllWs.nil

def scalarJV (f : TextFns) : SK → String → JV
  | .str, v => .str (codes v)
  | .timestamp, v => .str (codes v)
  | .null, _ => .null
  | .bool, v => .bool (f.lower v == "true")
  | .other, v => .num (codes v)

def keyOf : JT → List Nat
  | .scalar _ v => codes v
  | _ => []

mutual
def toJV (f : TextFns) : JT → JV
  | .scalar k v => scalarJV f k v
  | .arr xs => .arr (toJVs f xs)
  | .obj kvs => .obj (toJKVs f kvs)
def toJVs (f : TextFns) : JL → JVs
  | .nil => .nil
  | .cons x xs => .cons (toJV f x) (toJVs f xs)
def toJKVs (f : TextFns) : JKL → JKVs
  | .nil => .nil
  | .cons k v rest => .cons (keyOf k) (toJV f v) (toJKVs f rest)
end

/-- a number text: non-empty, number characters only, in the language of RFC 8259's `number` -/
def NumText (cs : List Nat) : Prop :=
  cs ≠ [] ∧ (∀ c ∈ cs, isNumChar c = true) ∧ Re.rmatch numberRe cs = true

/-- what the representers guarantee of a scalar, as far as JSON is concerned: a bool is written
`true` / `false` (after `str.lower`), a verbatim scalar is a number text -/
def WfScalar (f : TextFns) : SK → String → Prop
  | .bool, v => f.lower v = "true" ∨ f.lower v = "false"
  | .other, v => NumText (codes v)
  | _, _ => True

mutual
def WfT (f : TextFns) : JT → Prop
  | .scalar k v => WfScalar f k v
  | .arr xs => WfL f xs
  | .obj kvs => WfK f kvs
def WfL (f : TextFns) : JL → Prop
  | .nil => True
  | .cons x xs => WfT f x ∧ WfL f xs
def WfK (f : TextFns) : JKL → Prop
  | .nil => True
  | .cons k v rest => (∃ s, k = JT.scalar SK.str s) ∧ WfT f v ∧ WfK f rest
end

mutual
/-- the fuel the reference parser needs for the text of a tree: one unit per value, and per element or member
one more for the call of `parseElems` / `parseMembers` that reads it -/
def sz : JT → Nat
  | .scalar _ _ => 1
  | .arr xs => 1 + szL xs
  | .obj kvs => 1 + szK kvs
def szL : JL → Nat
  | .nil => 0
  | .cons x xs => 1 + sz x + szL xs
def szK : JKL → Nat
  | .nil => 0
  | .cons _ v rest => 1 + sz v + szK rest
end

/-- the text functions of the emitter agree with the model of `json.dumps` (mode `a`) -/
def DumpsIs (f : TextFns) (a : Bool) : Prop := ∀ v, codes (f.dumps v) = JsonString.dumps a (codes v)

/-- how `Dumper.__init__` sets `_kv_sep` -/
def WfCfg (cfg : Cfg) : Prop := cfg.kvsep = if cfg.indented then ": " else ":"

@[simp] theorem cc_lbrack (lb : String) : chunkCodes lb (.punct "[") = [91] := by
  simp [chunkCodes, Chunk.text, codes]
@[simp] theorem cc_rbrack (lb : String) : chunkCodes lb (.punct "]") = [93] := by
  simp [chunkCodes, Chunk.text, codes]
@[simp] theorem cc_lbrace (lb : String) : chunkCodes lb (.punct "{") = [123] := by
  simp [chunkCodes, Chunk.text, codes]
@[simp] theorem cc_rbrace (lb : String) : chunkCodes lb (.punct "}") = [125] := by
  simp [chunkCodes, Chunk.text, codes]
@[simp] theorem cc_comma (lb : String) : chunkCodes lb (.punct ",") = [44] := by
  simp [chunkCodes, Chunk.text, codes]
@[simp] theorem cc_scal (lb : String) (t : String) : chunkCodes lb (.scal t) = codes t := rfl
-- low priority: the brackets and the comma have their own lemmas above
@[simp low] theorem cc_punct (lb : String) (t : String) : chunkCodes lb (.punct t) = codes t := rfl

attribute [json_text] codesOf_nil codesOf_cons codesOf_append cc_lbrack cc_rbrack cc_lbrace cc_rbrace cc_comma
  cc_scal List.append_assoc List.cons_append List.nil_append List.append_nil

/-! ### the pieces the renderer writes

A property of the output that holds chunk-wise (no white space, indent shape, ASCII only) is a property of
the few kinds of piece. -/

/-- what the renderer may write at indent `ind`: a bracket, a comma or the separator; a line break, only
when indenting, at `ind` plus a multiple of `best`; the text of a scalar, well formed if `W` (if the tree is) -/
def Piece (cfg : Cfg) (ind : Nat) (W : Prop) : Chunk → Prop
  | .punct s => s ∈ ["[", "]", "{", "}", ","] ∨ s = cfg.kvsep
  | .nl n => cfg.indented = true ∧ ∃ j, n = ind + j * cfg.best
  | .scal s => ∃ k v, s = scalarText cfg.fns k v ∧ (W → WfScalar cfg.fns k v)

section
variable {cfg : Cfg} {ind : Nat} {W W' : Prop} {c : Chunk}

theorem Piece.imp (h : W' → W) : Piece cfg ind W c → Piece cfg ind W' c := by
  cases c with
  | scal s =>
    rintro ⟨k, v, e, hw⟩
    exact ⟨k, v, e, fun w => hw (h w)⟩
  | _ => exact id

theorem Piece.deeper : Piece cfg (ind + cfg.best) W c → Piece cfg ind W c := by
  cases c with
  | nl n =>
    rintro ⟨hi, j, e⟩
    exact ⟨hi, j + 1, by rw [e, Nat.succ_mul, Nat.add_assoc, Nat.add_comm cfg.best]⟩
  | _ => exact id

theorem Piece.endl (h : c ∈ endl cfg ind) : Piece cfg ind W c := by
  unfold Json.endl at h
  split at h
  · cases List.mem_singleton.mp h; exact ⟨‹_›, 0, by simp⟩
  · cases h

theorem Piece.sep {first : Bool} (h : c ∈ (if first then [] else Chunk.punct "," :: Json.endl cfg ind)) :
    Piece cfg ind W c := by
  cases first
  · rcases List.mem_cons.mp h with rfl | h
    · exact Or.inl (by simp)
    · exact Piece.endl h
  · cases h

theorem Piece.bracketed {o cl : String} (ho : o ∈ ["[", "]", "{", "}", ","]) (hcl : cl ∈ ["[", "]", "{", "}", ","])
    {body : List Chunk} (hb : ∀ c ∈ body, Piece cfg (ind + cfg.best) W c)
    (h : c ∈ [Chunk.punct o] ++ Json.endl cfg (ind + cfg.best) ++ body ++ Json.endl cfg ind ++ [Chunk.punct cl]) :
    Piece cfg ind W c := by
  simp only [List.mem_append, List.mem_singleton] at h
  rcases h with (((rfl | h) | h) | h) | rfl
  · exact Or.inl ho
  · exact (Piece.endl h).deeper
  · exact (hb c h).deeper
  · exact Piece.endl h
  · exact Or.inl hcl
end

mutual
theorem piece_rT (cfg : Cfg) : ∀ (t : JT) (ind : Nat), ∀ c ∈ rT cfg ind t, Piece cfg ind (WfT cfg.fns t) c
  | .scalar k v, _, c, hc => by cases List.mem_singleton.mp hc; exact ⟨k, v, rfl, id⟩
  | .arr xs, _, _, hc => Piece.bracketed (by simp) (by simp) (piece_rL cfg xs _ true) hc
  | .obj kvs, _, _, hc => Piece.bracketed (by simp) (by simp) (piece_rK cfg kvs _ true) hc
theorem piece_rL (cfg : Cfg) : ∀ (xs : JL) (ind : Nat) (first : Bool), ∀ c ∈ rL cfg ind first xs,
    Piece cfg ind (WfL cfg.fns xs) c
  | .nil, _, _, _, hc => by cases hc
  | .cons x xs, ind, first, c, hc => by
    simp only [rL, List.mem_append] at hc
    rcases hc with (h | h) | h
    · exact Piece.sep h
    · exact (piece_rT cfg x ind c h).imp And.left
    · exact (piece_rL cfg xs ind false c h).imp And.right
theorem piece_rK (cfg : Cfg) : ∀ (kvs : JKL) (ind : Nat) (first : Bool), ∀ c ∈ rK cfg ind first kvs,
    Piece cfg ind (WfK cfg.fns kvs) c
  | .nil, _, _, _, hc => by cases hc
  | .cons k v rest, ind, first, c, hc => by
    simp only [rK, List.mem_append, List.mem_singleton] at hc
    rcases hc with (((h | h) | rfl) | h) | h
    · exact Piece.sep h
    · exact (piece_rT cfg k ind c h).imp fun ⟨⟨s, e⟩, _⟩ => e ▸ trivial
    · exact Or.inr rfl
    · exact (piece_rT cfg v ind c h).imp fun hw => hw.2.1
    · exact (piece_rK cfg rest ind false c h).imp fun hw => hw.2.2
end

theorem piece_renderDoc (cfg : Cfg) (t : JT) : ∀ c ∈ renderDoc cfg t, Piece cfg 0 (WfT cfg.fns t) c := by
  intro c hc
  rcases List.mem_append.mp hc with h | h
  · exact piece_rT cfg t 0 c h
  · exact Piece.endl h

end YatimlModel.JsonParse
