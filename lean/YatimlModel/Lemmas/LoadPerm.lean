import YatimlModel.Lemmas.RecPerm
import YatimlModel.Model.Load
import YatimlModel.Lemmas.Values
/-!
Lifting order independence from recognition to the whole load: with the same classes registered in a
different order, a load that succeeds gives the same value, the same constructor calls and the same
savorize trace; a load that fails, fails.
-/
namespace YatimlModel

def ERel {α : Type} (r r' : Except LoadErr α) : Prop :=
  (∃ e e', r = .error e ∧ r' = .error e') ∨ r = r'

theorem ERel.refl {α : Type} (r : Except LoadErr α) : ERel r r := Or.inr rfl

theorem savorize_perm (env env' : Env) (h : EnvPerm env env') (fuel : Nat) :
    savorize env' fuel = savorize env fuel := by
  induction fuel with
  | zero => rfl
  | succ fuel ih =>
    funext n d
    unfold savorize
    rw [ih, funext h.find_eq]

theorem savStep_perm (env env' : Env) (h : EnvPerm env env') (fuel : Nat) (n : Node) (R : Ty) :
    savStep env' fuel n R = savStep env fuel n R := by
  unfold savStep
  rw [funext h.find_eq, savorize_perm env env' h]

theorem tagStep_perm (env env' : Env) (h : EnvPerm env env') (tbl : List Entry) (R : Ty) (n3 : Node)
    (tr : List String) : tagStep env' tbl R n3 tr = tagStep env tbl R n3 tr := by
  unfold tagStep typeToTag
  rw [funext h.isRegistered_eq]

theorem ERel.err {α : Type} {e e' : LoadErr} : ERel (.error e : Except LoadErr α) (.error e') :=
  Or.inl ⟨_, _, rfl, rfl⟩

@[elab_as_elim] theorem ERel.rec' {α : Type} {P : Except LoadErr α → Except LoadErr α → Prop}
    {r r' : Except LoadErr α} (h : ERel r r') (herr : ∀ e e', P (.error e) (.error e'))
    (hok : ∀ a, P (.ok a) (.ok a)) : P r r' := by
  rcases h with ⟨e, e', rfl, rfl⟩ | rfl
  · exact herr e e'
  · cases r with
    | error e => exact herr e e
    | ok a => exact hok a

theorem procItems_rel (proc proc' : Node → Ty → ProcRes) (hp : ∀ x U, ERel (proc x U) (proc' x U)) (T : Ty)
    (xs : List Node) : ERel (procItems proc T xs) (procItems proc' T xs) := by
  induction xs with
  | nil => exact ERel.refl _
  | cons x rest ih =>
    unfold procItems
    refine (hp x T).rec' (fun _ _ => .err) fun o => ?_
    exact ih.rec' (fun _ _ => .err) fun _ => ERel.refl _

theorem procPairs_rel (proc proc' : Node → Ty → ProcRes) (hp : ∀ x U, ERel (proc x U) (proc' x U)) (K V : Ty)
    (ps : List (Node × Node)) : ERel (procPairs proc K V ps) (procPairs proc' K V ps) := by
  induction ps with
  | nil => exact ERel.refl _
  | cons p rest ih =>
    unfold procPairs
    refine (hp p.1 K).rec' (fun _ _ => .err) fun ko => ?_
    refine (hp p.2 V).rec' (fun _ _ => .err) fun vo => ?_
    exact ih.rec' (fun _ _ => .err) fun _ => ERel.refl _

theorem procAttrs_rel (proc proc' : Node → Ty → ProcRes) (hp : ∀ x U, ERel (proc x U) (proc' x U))
    (params : List Param) (n : Node) : ERel (procAttrs proc n params) (procAttrs proc' n params) := by
  induction params generalizing n with
  | nil => exact ERel.refl _
  | cons p rest ih =>
    unfold procAttrs
    split
    · exact ERel.refl _
    · exact ih n
    · split
      · exact ERel.refl _
      · refine (hp _ p.ty).rec' (fun _ _ => .err) fun o => ?_
        dsimp only
        split
        · exact ERel.refl _
        · exact (ih _).rec' (fun _ _ => .err) fun _ => ERel.refl _

theorem subStep_rel (env env' : Env) (h : EnvPerm env env') (proc proc' : Node → Ty → ProcRes)
    (hp : ∀ x U, ERel (proc x U) (proc' x U)) (R : Ty) (n2 : Node) :
    ERel (subStep env proc R n2) (subStep env' proc' R n2) := by
  unfold subStep
  rw [funext h.find_eq]
  -- the `if`s: `split` is slow to check on them; after `cases` on the test they reduce by computation
  split
  · split
    · rename_i t _ _
      cases t != tSeq
      · exact (procItems_rel proc proc' hp _ _).rec' (fun _ _ => .err) fun _ => ERel.refl _
      · exact .err
    · exact ERel.refl _
  · split
    · rename_i t _ _
      cases t != tMap
      · exact (procPairs_rel proc proc' hp _ _ _).rec' (fun _ _ => .err) fun _ => ERel.refl _
      · exact .err
    · exact ERel.refl _
  · split
    · rename_i d _
      cases d.isPlain && n2.isMapNode
      · exact ERel.refl _
      · exact procAttrs_rel proc proc' hp _ _
    · exact ERel.refl _
  · exact ERel.refl _

/-- **Registration order does not change what processing a node gives.** -/
theorem processNode_perm (env env' : Env) (h : EnvPerm env env') (tbl : List Entry) :
    ∀ (fuel : Nat) (n : Node) (T : Ty), ERel (processNode env tbl fuel n T) (processNode env' tbl fuel n T) := by
  intro fuel
  induction fuel with
  | zero => intro n T; exact ERel.refl _
  | succ fuel ih =>
    intro n T
    unfold processNode recognize
    refine (recognizeReq_permRel env env' h (fuel + 1) n (.ty T)).rec' (fun _ _ => .err) fun ts ls ts' ls' hp => ?_
    dsimp only
    rcases ts with _ | ⟨R, _ | ⟨R2, r⟩⟩
    · cases hp.nil_eq; exact .err
    · cases List.singleton_perm.mp hp
      dsimp only
      rw [savStep_perm env env' h]
      cases savStep env (fuel + 1) n R with
      | error e => exact ERel.refl _
      | ok p =>
        dsimp only
        -- at default transparency the motive is found by unfolding the two `subStep` calls against each other: slow
        with_reducible refine (subStep_rel env env' h _ _ ih R p.1).rec' (fun _ _ => .err) fun a => ?_
        dsimp only
        rw [tagStep_perm env env' h]
        exact ERel.refl _
    · rcases ts' with _ | ⟨_, _ | _⟩
      · cases hp.length_eq
      · cases hp.length_eq
      · exact .err

/-! ### construction looks classes up by name only -/

theorem isInstanceOf_perm (env env' : Env) (h : EnvPerm env env') (v : PyVal) (c : String) :
    isInstanceOf env' v c = isInstanceOf env v c := by
  unfold isInstanceOf
  rw [funext h.find_eq]

theorem keyMatches_perm (env env' : Env) (h : EnvPerm env env') (v : PyVal) (t : Ty) :
    keyMatches env' v t = keyMatches env v t := by
  unfold keyMatches
  rw [funext (isInstanceOf_perm env env' h v)]

-- by recursion on the type alone: the value gets smaller only inside a list or dict
mutual
theorem typeMatches_perm (env env' : Env) (h : EnvPerm env env') :
    ∀ (v : PyVal) (t : Ty), typeMatches env' v t = typeMatches env v t := by
  intro v t
  cases t with
  | union ms => unfold typeMatches; exact typeMatchesAny_perm env env' h v ms
  | seq _ item =>
    rw [Bool.eq_iff_iff, typeMatches_seq, typeMatches_seq]
    simp only [fun x => typeMatches_perm env env' h x item]
  | map _ k val =>
    rw [Bool.eq_iff_iff, typeMatches_map, typeMatches_map]
    simp only [keyMatches_perm env env' h, fun x => typeMatches_perm env env' h x val]
  | cls c => unfold typeMatches; exact isInstanceOf_perm env env' h v c
  | _ => unfold typeMatches; rfl
theorem typeMatchesAny_perm (env env' : Env) (h : EnvPerm env env') :
    ∀ (v : PyVal) (ts : Tys), typeMatchesAny env' v ts = typeMatchesAny env v ts := by
  intro v ts
  cases ts with
  | nil => unfold typeMatchesAny; rfl
  | cons t ts =>
    unfold typeMatchesAny
    rw [typeMatches_perm env env' h v t, typeMatchesAny_perm env env' h v ts]
end

theorem typeMatchesAll_perm (env env' : Env) (h : EnvPerm env env') :
    ∀ (xs : PyVals) (t : Ty), typeMatchesAll env' xs t = typeMatchesAll env xs t :=
  fun xs t => by simp only [typeMatchesAll_eq, typeMatches_perm env env' h]

theorem typeMatchesKVs_perm (env env' : Env) (h : EnvPerm env env') :
    ∀ (kvs : PyKVs) (kt vt : Ty), typeMatchesKVs env' kvs kt vt = typeMatchesKVs env kvs kt vt :=
  fun kvs kt vt => by simp only [typeMatchesKVs_eq, typeMatches_perm env env' h, keyMatches_perm env env' h]

theorem checkAttributes_perm (env env' : Env) (h : EnvPerm env env') : checkAttributes env' = checkAttributes env := by
  unfold checkAttributes
  rw [funext fun v => funext (typeMatches_perm env env' h v)]

theorem construct_perm (env env' : Env) (h : EnvPerm env env') (tbl : List Entry) :
    ∀ (fuel : Nat) (n : Node), construct env' tbl fuel n = construct env tbl fuel n := by
  intro fuel
  induction fuel with
  | zero => intro n; rfl
  | succ fuel ih =>
    intro n
    -- one side at a time: each rewrite checks a motive as big as the unfolded goal
    conv => lhs; unfold construct
    rw [funext ih, funext h.byTag_eq, h.ext, checkAttributes_perm env env' h]
    conv => rhs; unfold construct

/-- **Registration order does not change the outcome of a load**: the same value, constructor calls,
savorize trace and processed tree when it succeeds; a failure when it fails. -/
theorem loadNode_perm (env env' : Env) (h : EnvPerm env env') (tbl : List Entry) (fuel : Nat) (n : Node) (T : Ty) :
    (∃ f f', loadNode env tbl fuel n T = .error f ∧ loadNode env' tbl fuel n T = .error f') ∨
    loadNode env tbl fuel n T = loadNode env' tbl fuel n T := by
  unfold loadNode
  refine (processNode_perm env env' h tbl fuel n T).rec' (fun _ _ => .inl ⟨_, _, rfl, rfl⟩) fun p => ?_
  dsimp only
  rw [construct_perm env env' h]
  exact .inr rfl

end YatimlModel
