/-!
`All2 r as bs`: the lists have the same length and are related by `r` position by position.
-/
namespace YatimlModel

inductive All2 {α β : Type} (r : α → β → Prop) : List α → List β → Prop
  | nil : All2 r [] []
  | cons {a : α} {b : β} {as : List α} {bs : List β} : r a b → All2 r as bs → All2 r (a :: as) (b :: bs)

-- the proofs go by `induction` on the `All2` hypothesis: structural recursion over it is much slower to check
theorem All2.append {α β : Type} {r : α → β → Prop} {as as' : List α} {bs bs' : List β} :
    All2 r as bs → All2 r as' bs' → All2 r (as ++ as') (bs ++ bs') := by
  intro t h
  induction t with
  | nil => exact h
  | cons hab _ ih => exact .cons hab ih

variable {α β γ : Type} {r : α → β → Prop} {as : List α} {bs : List β}

theorem All2.map_right_mem {s : α → γ → Prop} (g : β → γ) (t : All2 r as bs)
    (h : ∀ a ∈ as, ∀ b, r a b → s a (g b)) : All2 s as (bs.map g) := by
  induction t with
  | nil => exact .nil
  | cons hab _ ih => exact .cons (h _ List.mem_cons_self _ hab) (ih fun a ha => h a (List.mem_cons_of_mem _ ha))

theorem All2.imp_mem {s : α → β → Prop} (t : All2 r as bs) (h : ∀ a ∈ as, ∀ b, r a b → s a b) : All2 s as bs :=
  List.map_id bs ▸ t.map_right_mem id h

theorem All2.imp {s : α → β → Prop} (h : ∀ a b, r a b → s a b) (t : All2 r as bs) : All2 s as bs :=
  t.imp_mem fun a _ => h a

theorem All2.map_right {s : α → γ → Prop} (g : β → γ) (h : ∀ a b, r a b → s a (g b)) (t : All2 r as bs) :
    All2 s as (bs.map g) :=
  t.map_right_mem g fun a _ => h a

theorem All2.map_eq (g : α → γ) (h : β → γ) (t : All2 r as bs) (hr : ∀ a b, r a b → g a = h b) :
    as.map g = bs.map h := by
  induction t with
  | nil => rfl
  | cons hab _ ih => rw [List.map_cons, List.map_cons, hr _ _ hab, ih]

theorem All2.append_left {as1 as2 : List α} {bs : List β} (t : All2 r (as1 ++ as2) bs) :
    ∃ bs1 bs2, bs = bs1 ++ bs2 ∧ All2 r as1 bs1 ∧ All2 r as2 bs2 := by
  induction as1 generalizing bs with
  | nil => exact ⟨[], bs, rfl, .nil, t⟩
  | cons _ _ ih =>
    cases t with
    | cons hab t =>
      obtain ⟨bs1, bs2, e, h1, h2⟩ := ih t
      exact ⟨_ :: bs1, bs2, e ▸ rfl, .cons hab h1, h2⟩

theorem All2.flip (t : All2 r as bs) : All2 (fun b a => r a b) bs as := by
  induction t with
  | nil => exact .nil
  | cons hab _ ih => exact .cons hab ih

theorem All2.mem_right (t : All2 r as bs) : ∀ b ∈ bs, ∃ a ∈ as, r a b := by
  induction t with
  | nil => exact fun _ hb => nomatch hb
  | cons hab _ ih =>
    intro b hb
    rcases List.mem_cons.mp hb with rfl | hb
    · exact ⟨_, List.mem_cons_self, hab⟩
    · obtain ⟨a', ha', hr⟩ := ih b hb
      exact ⟨a', List.mem_cons_of_mem _ ha', hr⟩

theorem All2.mem_left (t : All2 r as bs) : ∀ a ∈ as, ∃ b ∈ bs, r a b :=
  t.flip.mem_right

theorem All2.pairwise {R : β → β → Prop} {S : α → α → Prop} (t : All2 r as bs)
    (h : ∀ a b a' b', r a b → r a' b' → R b b' → S a a') (hb : bs.Pairwise R) : as.Pairwise S := by
  induction t with
  | nil => exact .nil
  | cons hab t ih =>
    obtain ⟨h1, h2⟩ := List.pairwise_cons.mp hb
    refine .cons (fun a' ha' => ?_) (ih h2)
    obtain ⟨b', hb', hr'⟩ := t.mem_left a' ha'
    exact h _ _ _ _ hab hr' (h1 b' hb')

end YatimlModel
