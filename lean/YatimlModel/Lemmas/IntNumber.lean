import YatimlModel.Lemmas.IntText
import YatimlModel.Lemmas.RegexLang
/-!
`str(i)` of every integer is a decimal numeral without a leading zero, with an optional minus sign
(`int_text_lang`, in the words of the regular expression for it) — from core's `Nat.toDigits` lemmas,
no bound on the integer.
-/
namespace YatimlModel
open Re

theorem CSet.mem_range (lo hi c : Nat) (h1 : lo ≤ c) (h2 : c ≤ hi) : CSet.mem [(lo, hi)] c = true := by
  simp [CSet.mem, h1, h2]

theorem nat_digits_lang (n : Nat) :
    Lang (alt (ch '0') (cat (rng '1' '9') (star (rng '0' '9')))) ((Nat.toDigits 10 n).map Char.toNat) := by
  cases hd : Nat.toDigits 10 n with
  | nil => exact absurd hd Nat.toDigits_ne_nil
  | cons c r =>
    have hall : ∀ x ∈ c :: r, x.isDigit = true := fun x hx =>
      Nat.isDigit_of_mem_toDigits (n := n) (by decide) (by decide) (hd ▸ hx)
    by_cases hn : n = 0
    · subst hn
      cases hd
      exact Lang.altL (Lang.set (by decide))
    · have hc0 : c.toNat ≠ 48 := fun e =>
        head_toDigits_ne_zero n (Nat.pos_of_ne_zero hn) c r hd (Char.ext (UInt32.toNat_inj.mp e))
      obtain ⟨h1, h2⟩ := isDigit_toNat c (hall c List.mem_cons_self)
      have h49 : 49 ≤ c.toNat := Nat.lt_of_le_of_ne h1 hc0.symm
      have hr : ∀ x ∈ r.map Char.toNat, CSet.mem [('0'.toNat, '9'.toNat)] x = true := by
        intro x hx
        obtain ⟨y, hy, rfl⟩ := List.mem_map.mp hx
        obtain ⟨a, b⟩ := isDigit_toNat y (hall y (List.mem_cons_of_mem _ hy))
        exact CSet.mem_range _ _ _ a b
      exact Lang.altR (Lang.cat (s := [c.toNat]) (Lang.set (CSet.mem_range _ _ _ h49 h2))
        ((lang_star_set _ _).mpr hr))

theorem int_text_lang : ∀ (i : Int),
    Lang (cat (opt (ch '-')) (alt (ch '0') (cat (rng '1' '9') (star (rng '0' '9'))))) (codes (toString i))
  | .ofNat n => by
    show Lang _ ((Int.repr (Int.ofNat n)).toList.map Char.toNat)
    simp only [Int.repr, Nat.toList_repr]
    exact Lang.cat (s := []) (Lang.altL Lang.eps) (nat_digits_lang n)
  | .negSucc m => by
    show Lang _ ((Int.repr (Int.negSucc m)).toList.map Char.toNat)
    simp only [Int.repr, String.toList_append, Nat.toList_repr, List.map_append]
    exact Lang.cat (Lang.altR (Lang.set (by decide))) (nat_digits_lang (m + 1))

end YatimlModel
