import YatimlModel.Model.Load
import YatimlModel.Lemmas.ConsAll
/-!
`__process_node`, step by step: what a success consists of, and one rule per list combinator
(`N` of every processed node, `E` of the error, if so for the pieces); and the load as processing
followed by construction.
-/
namespace YatimlModel

def ProcAll (N : Node → Prop) (E : LoadErr → Prop) : ProcRes → Prop
  | .ok o => N o.node
  | .error e => E e

variable {N NK NV : Node → Prop} {E : LoadErr → Prop}

theorem ProcAll.intro {r : ProcRes} (hok : ∀ o, r = .ok o → N o.node) (herr : ∀ e, r = .error e → E e) :
    ProcAll N E r := by
  cases r with
  | ok o => exact hok o rfl
  | error e => exact herr e rfl

theorem ProcAll.error {r : ProcRes} {e : LoadErr} (h : ProcAll N E r) (hr : r = .error e) : E e := by
  subst hr; exact h

theorem procItems_all (proc : Node → Ty → ProcRes) (T : Ty) (xs : List Node)
    (h : ∀ x ∈ xs, ProcAll N E (proc x T)) :
    match procItems proc T xs with
    | .ok r => ∀ y ∈ r.1, N y
    | .error e => E e := by
  induction xs with
  | nil => exact List.forall_mem_nil _
  | cons x xs ih =>
    obtain ⟨hx, hxs⟩ := List.forall_mem_cons.mp h
    have ih := ih hxs
    unfold procItems
    revert hx ih
    cases proc x T with
    | error e => exact fun hx _ => hx
    | ok o =>
      cases procItems proc T xs with
      | error e => exact fun _ ih => ih
      | ok r => exact fun hx ih => List.forall_mem_cons.mpr ⟨hx, ih⟩

theorem procPairs_all (proc : Node → Ty → ProcRes) (K V : Ty) (ps : List (Node × Node))
    (h : ∀ p ∈ ps, ProcAll NK E (proc p.1 K) ∧ ProcAll NV E (proc p.2 V)) :
    match procPairs proc K V ps with
    | .ok r => ∀ q ∈ r.1, NK q.1 ∧ NV q.2
    | .error e => E e := by
  induction ps with
  | nil => exact List.forall_mem_nil _
  | cons p ps ih =>
    obtain ⟨⟨hk, hv⟩, hps⟩ := List.forall_mem_cons.mp h
    have ih := ih hps
    unfold procPairs
    revert hk hv ih
    cases proc p.1 K with
    | error e => exact fun hk _ _ => hk
    | ok ko =>
      cases proc p.2 V with
      | error e => exact fun _ hv _ => hv
      | ok vo =>
        cases procPairs proc K V ps with
        | error e => exact fun _ _ ih => ih
        | ok r => exact fun hk hv ih => List.forall_mem_cons.mpr ⟨⟨hk, hv⟩, ih⟩

theorem procAttrs_err (proc : Node → Ty → ProcRes) (hp : ∀ x U, ProcAll N E (proc x U)) (hE : ∀ m, E (errAt m))
    (params : List Param) (n : Node) (e : LoadErr) (h : procAttrs proc n params = .error e) : E e := by
  -- the ways `procAttrs` answers `.error`, in its order
  fun_induction procAttrs proc n params <;> try cases h
  · exact hE _
  · rename_i ih
    exact ih h
  · exact hE _
  · rename_i hx
    exact (hp _ _).error hx
  · exact hE _
  · rename_i ih hr
    exact ih hr

variable {env : Env} {tbl : List Entry} {fuel : Nat} {n : Node} {T : Ty}

theorem savStep_err {R : Ty} {e : LoadErr} (h : savStep env fuel n R = .error e) : ∃ m, e = errAt m := by
  revert h
  -- the one way `savStep` answers `.error`: `savorize` of a registered class fails
  fun_cases savStep env fuel n R <;> intro h <;> cases h
  exact ⟨_, rfl⟩

theorem subStep_err {proc : Node → Ty → ProcRes} (hp : ∀ x U, ProcAll N E (proc x U)) (hE : ∀ m, E (errAt m))
    {R : Ty} {n2 : Node} {e : LoadErr} (h : subStep env proc R n2 = .error e) : E e := by
  revert h
  -- the ways `subStep` answers `.error`, in its order
  fun_cases subStep env proc R n2 <;> intro h <;> try cases h
  · exact hE _
  · rename_i item _ xs _ _ hr
    have := procItems_all proc item xs.toList (fun x _ => hp x item)
    rw [hr] at this
    exact this
  · exact hE _
  · exact hE _
  · rename_i K V _ ps _ _ hr
    have := procPairs_all proc K V ps.toList (fun p _ => ⟨hp p.1 K, hp p.2 V⟩)
    rw [hr] at this
    exact this
  · exact hE _
  · exact procAttrs_err proc hp hE _ _ _ h

theorem processNode_ok {o : ProcOut} (h : processNode env tbl (fuel + 1) n T = .ok o) :
    ∃ R ls n2 tr n3 tr', recognize env (fuel + 1) n T = .ok ([R], ls) ∧
      savStep env (fuel + 1) n R = .ok (n2, tr) ∧
      subStep env (processNode env tbl fuel) R n2 = .ok (n3, tr') ∧
      tagStep env tbl R n3 (tr ++ tr') = .ok o := by
  -- `fun_cases` wants the fuel as a variable
  generalize hf : fuel + 1 = f at h
  revert h
  -- the one way `processNode` answers `.ok`
  fun_cases processNode env tbl f n T <;> intro h <;> try cases h
  rename_i hsub hs hr
  cases hf
  exact ⟨_, _, _, _, _, _, hr, hs, hsub, h⟩

theorem tag_setTag (n : Node) (t : String) : (n.setTag t).tag = t := by cases n <;> rfl

theorem pairs_setTag (n : Node) (t : String) : (n.setTag t).pairs = n.pairs := by cases n <;> rfl

theorem tagStep_ok {R : Ty} {n3 : Node} {tr : List String} {o : ProcOut} (h : tagStep env tbl R n3 tr = .ok o) :
    o.trace = tr ∧ ((R = .any ∧ o.node = stripTags tbl n3) ∨
      (R ≠ .any ∧ ∃ tag, typeToTag env R = some tag ∧ o.node = n3.setTag tag)) := by
  revert h
  fun_cases tagStep env tbl R n3 tr <;> intro h <;> cases h
  · rename_i hany
    exact ⟨rfl, .inl ⟨eq_of_beq hany, rfl⟩⟩
  · rename_i hany tag htag
    exact ⟨rfl, .inr ⟨mt beq_iff_eq.mpr hany, tag, htag, rfl⟩⟩

def allCalls (r : LoadRes) : List Call :=
  match r with
  | .ok o => o.calls
  | .error f => f.calls

theorem loadNode_all {C : Call → Prop} {V : PyVal → Prop} (hp : ProcAll N E (processNode env tbl fuel n T))
    (hc : ∀ p, N p → ConsAll C V E (construct env tbl fuel p)) :
    (∀ c ∈ allCalls (loadNode env tbl fuel n T), C c) ∧
      match loadNode env tbl fuel n T with
      | .ok o => V o.value
      | .error f => E f.err := by
  unfold loadNode
  revert hp
  cases processNode env tbl fuel n T with
  | error e => exact fun hp => ⟨List.forall_mem_nil _, hp⟩
  | ok p =>
    intro hp
    have := hc p.node hp
    revert this
    dsimp only
    cases construct env tbl fuel p.node <;> exact id

end YatimlModel
