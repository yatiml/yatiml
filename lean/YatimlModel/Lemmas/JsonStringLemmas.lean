import YatimlModel.Model.JsonString
/-!
What the model of `json.dumps` writes for one character has one of four shapes, whatever the mode
(`EscShape`, `esc_shape`).  That the output is an RFC 8259 string token (`dumps_valid`), that it is
printable ASCII in the ASCII mode (`dumps_ascii`) and, in `Lemmas/JsonParse`, that the reference parser
reads it back are facts about the four shapes.
-/
namespace YatimlModel.JsonString

theorem hexDigit_isHex : ∀ n, n < 16 → isHex (hexDigit n) = true := by decide

theorem hexDigit_ascii : ∀ n, n < 16 → 32 ≤ hexDigit n ∧ hexDigit n ≤ 126 := by decide

/-- `ESCAPE_DCT` as a table: character, letter after the backslash -/
def shortTable : List (Nat × Nat) := [(34, 34), (92, 92), (10, 110), (13, 114), (9, 116), (8, 98), (12, 102)]

theorem shortEsc_eq_lookup (c : Nat) : shortEsc c = shortTable.lookup c := by
  -- written with `cond`, the seven-fold `if` is the chain of matches that `List.lookup` unfolds to
  simp only [shortEsc, ← cond_eq_ite]
  rfl

/-- every fact about a short escape is a fact about the seven rows of the table -/
theorem shortEsc_mem {c e : Nat} (h : shortEsc c = some e) : (c, e) ∈ shortTable := by
  rw [shortEsc_eq_lookup] at h
  obtain ⟨l₁, l₂, hl, _⟩ := List.lookup_eq_some_iff.mp h
  exact hl ▸ List.mem_append_right _ List.mem_cons_self

theorem shortEsc_none (c : Nat) (h : shortEsc c = none) : c ≠ 34 ∧ c ≠ 92 := by
  constructor <;> intro hc <;> subst hc <;> cases h

/-- `a`: the `ensure_ascii` mode -/
inductive EscShape (a : Bool) (c : Nat) : List Nat → Prop
  | short (e : Nat) : shortEsc c = some e → EscShape a c [92, e]
  | plain : c ≠ 34 → c ≠ 92 → 32 ≤ c → (a = true → c ≤ 126) → EscShape a c [c]
  | u : c < 65536 → EscShape a c (uEsc c)
  | pair : 65536 ≤ c →
      EscShape a c (uEsc (55296 + (c - 65536) / 1024 % 1024) ++ uEsc (56320 + (c - 65536) % 1024))

theorem esc_shape (a : Bool) (c : Nat) : EscShape a c ((if a then escAscii else escUni) c) := by
  cases a
  · simp only [Bool.false_eq_true, ↓reduceIte, escUni]
    split
    · exact .short _ ‹_›
    · obtain ⟨h1, h2⟩ := shortEsc_none c ‹_›
      split
      · exact .u (by omega)
      · exact .plain h1 h2 (Nat.le_of_not_lt ‹_›) nofun
  · simp only [↓reduceIte, escAscii]
    split
    · exact .short _ ‹_›
    · obtain ⟨h1, h2⟩ := shortEsc_none c ‹_›
      by_cases h : 32 ≤ c ∧ c ≤ 126 <;> simp only [h, ↓reduceIte]
      · exact .plain h1 h2 h.1 fun _ => h.2
      · split
        · exact .u ‹_›
        · exact .pair (Nat.le_of_not_lt ‹_›)

theorem validBody_u (n : Nat) (r : List Nat) : validBody (uEsc n ++ r) = validBody r := by
  -- `-BEq.rfl` (here and below): on a state test `0 == 0` it starts a search for `ReflBEq Nat`; `Nat.reduceBEq` decides it
  simp [-BEq.rfl, uEsc, hex4, validBody, validBodyFrom, bodyStep, hexDigit_isHex, Nat.mod_lt]

theorem validBody_esc {a : Bool} {c : Nat} {l : List Nat} (h : EscShape a c l) (r : List Nat) :
    validBody (l ++ r) = validBody r := by
  cases h with
  | short e he =>
    obtain ⟨h1, h2⟩ :=
      (by decide : ∀ p ∈ shortTable, isEscLetter p.2 = true ∧ p.2 ≠ 117) (c, e) (shortEsc_mem he)
    simp [-BEq.rfl, validBody, validBodyFrom, bodyStep, h1, h2]
  | plain h1 h2 h3 _ => simp [-BEq.rfl, validBody, validBodyFrom, bodyStep, h1, h2, h3]
  | u _ => exact validBody_u c r
  | pair _ => rw [List.append_assoc, validBody_u, validBody_u]

theorem dumps_valid (a : Bool) (s : List Nat) : validJsonString (dumps a s) = true := by
  unfold dumps validJsonString
  simp only [List.cons_append, List.nil_append]
  induction s with
  | nil => rfl
  | cons c cs ih => rwa [List.flatMap_cons, List.append_assoc, validBody_esc (esc_shape a c)]

def isAsciiPrintable (c : Nat) : Bool := decide (32 ≤ c) && decide (c ≤ 126)

theorem uEsc_ascii (n : Nat) : (uEsc n).all isAsciiPrintable = true := by
  simp [uEsc, hex4, isAsciiPrintable, hexDigit_ascii _ (Nat.mod_lt _ (by decide))]

theorem esc_ascii {c : Nat} {l : List Nat} (h : EscShape true c l) : l.all isAsciiPrintable = true := by
  cases h with
  | short e he =>
    have := (by decide : ∀ p ∈ shortTable, isAsciiPrintable p.2 = true) (c, e) (shortEsc_mem he)
    simp only [List.all_cons, List.all_nil, Bool.and_true, this]
    decide
  | plain _ _ h3 h4 => simp [isAsciiPrintable, h3, h4 rfl]
  | u _ => exact uEsc_ascii c
  | pair _ => simp only [List.all_append, uEsc_ascii, Bool.and_self]

theorem dumps_ascii (s : List Nat) : (dumps true s).all isAsciiPrintable = true := by
  have : (s.flatMap escAscii).all isAsciiPrintable = true := by
    rw [List.all_flatMap]
    exact List.all_eq_true.mpr fun c _ => esc_ascii (esc_shape true c)
  simp only [dumps, if_true, List.all_append, this]
  decide

end YatimlModel.JsonString
