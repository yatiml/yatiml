import YatimlModel.Model.Represent
import YatimlModel.Lemmas.All2
/-!
What a successful run of the representers returned: `represent_builtin` / `represent_class` invert
`represent env (fuel + 1) v = .ok o` for each form of `v` (children by `All2`, one unit of fuel less),
so that an induction over the fuel never has to open `represent`, `repItems`, `repPairs` or `sweeten`.
`NoSweeten`, `find_mem` and `sweeten_id` are in namespace `C07`: `NoSweeten` is the hypothesis of
`C07_dumps_json_is_projection`; C05Objects and C06Tree state theirs with the same predicate.
-/
namespace YatimlModel.C07

/-- no registered class has a `_yatiml_sweeten` (own or inherited) -/
def NoSweeten (env : DumpEnv) : Prop :=
  ∀ d ∈ env.registered, d.sweetenOwn = none ∧ d.sweetenMro = none

theorem find_mem (env : DumpEnv) (c : String) (d : DumpClass) (h : env.find c = some d) :
    d ∈ env.registered := by
  unfold DumpEnv.find at h
  exact List.mem_of_find?_eq_some h

theorem sweeten_id (env : DumpEnv) (hns : NoSweeten env) :
    ∀ (fuel : Nat) (n : Node) (d : DumpClass), d ∈ env.registered →
      ∀ r, sweeten env fuel n d = .ok r → r = (n, []) := by
  intro fuel n d
  fun_induction sweeten env fuel n d <;> intro hd r h <;> cases h
  · rename_i n d _ _ n' tr hfold _ ih
    -- the walk over the bases keeps an accumulator that is an error or the untouched node
    exact List.foldlRecOn
      (motive := fun (acc : Except DumpErr (Node × List String)) => ∀ r, acc = .ok r → r = (n, [])) _ _
      (fun r h => by cases h; rfl) (fun acc hacc b hb r hr => by
        obtain ⟨nm, _, hnm⟩ := List.mem_filterMap.mp hb
        cases acc with
        | error e => cases hr
        | ok p =>
          cases hacc p rfl
          simp only at hr
          split at hr
          · cases hr
          · rename_i n'' tr' hsw
            cases ih b n (find_mem env nm b hnm) _ hsw
            cases hr; rfl) _ hfold
  · rename_i hown _ _ _
    cases (hns _ hd).1.symm.trans hown

end YatimlModel.C07

namespace YatimlModel

def RepTo (rep : PyVal → Except DumpErr RepOut) (x : PyVal) (n : Node) : Prop :=
  ∃ o, rep x = .ok o ∧ o.node = n

theorem repItems_all2 (rep : PyVal → Except DumpErr RepOut) :
    ∀ (xs : List PyVal) (ns : List Node) (tr : List String), repItems rep xs = .ok (ns, tr) →
      All2 (RepTo rep) xs ns := by
  intro xs
  fun_induction repItems rep xs <;> intro ns tr h <;> cases h
  · exact All2.nil
  · rename_i o ho ns' tr' hrest ih
    exact All2.cons ⟨o, ho, rfl⟩ (ih ns' tr' hrest)

theorem repPairs_all2 (rep : PyVal → Except DumpErr RepOut) :
    ∀ (kvs : List (PyVal × PyVal)) (ps : List (Node × Node)) (tr : List String), repPairs rep kvs = .ok (ps, tr) →
      All2 (fun e p => RepTo rep e.1 p.1 ∧ RepTo rep e.2 p.2) kvs ps := by
  intro kvs
  fun_induction repPairs rep kvs <;> intro ps tr h <;> cases h
  · exact All2.nil
  · rename_i ko hko vo hvo ps' tr' hrest ih
    exact All2.cons ⟨⟨ko, hko, rfl⟩, ⟨vo, hvo, rfl⟩⟩ (ih ps' tr' hrest)

/-- **What `represent` returned for built-in data** (no class is looked up, no hook can run). -/
theorem represent_builtin (env : DumpEnv) {fuel : Nat} {v : PyVal} {o : RepOut}
    (h : represent env (fuel + 1) v = .ok o) :
    match v with
    | .scalar s => o.node = representScalar s
    | .date r => o.node = .scalar tTimestamp r gen
    | .bytes r => o.node = .scalar "tag:yaml.org,2002:binary" r gen
    | .path s => o.node = .scalar tStr s gen
    | .list xs => ∃ ns, o.node = .seq tSeq (Nodes.ofList ns) gen ∧ All2 (RepTo (represent env fuel)) xs.toList ns
    | .dict kvs => ∃ ps, o.node = .map tMap (Pairs.ofList ps) gen ∧
        All2 (fun e p => RepTo (represent env fuel) e.1 p.1 ∧ RepTo (represent env fuel) e.2 p.2) kvs.toList ps
    | _ => True := by
  cases v with
  | scalar _ | date _ | bytes _ | path _ => cases h; rfl
  | list xs =>
    -- by the equations of `represent`, not `unfold` as below: this leaves them in the module for the files that use them
    simp only [represent] at h ⊢
    split at h
    · cases h
    · rename_i ns tr hitems
      cases h
      exact ⟨ns, rfl, repItems_all2 _ _ ns tr hitems⟩
  | dict kvs =>
    unfold represent at h
    simp only at h ⊢
    split at h
    · cases h
    · rename_i ps tr hpairs
      cases h
      exact ⟨ps, rfl, repPairs_all2 _ _ ps tr hpairs⟩
  | _ => trivial

/-- **What `represent` returned for a value of a registered class**, when no class has a
`_yatiml_sweeten`: the plain string node, or the mapping of the attributes. -/
theorem represent_class (env : DumpEnv) (hns : C07.NoSweeten env) {fuel : Nat} {v : PyVal} {o : RepOut}
    (h : represent env (fuel + 1) v = .ok o) :
    match v with
    | .enumMember _ s => o.node = .scalar tStr s gen
    | .userStr _ s => o.node = .scalar tStr s gen
    | .obj _ kw => ∃ ps, o.node = .map tMap (Pairs.ofList ps) gen ∧
        All2 (fun e p => RepTo (represent env fuel) e.1 p.1 ∧ RepTo (represent env fuel) e.2 p.2)
          (attributesOf kw.toList) ps
    | _ => True := by
  cases v with
  | enumMember c s | userStr c s =>
    unfold represent at h
    cases hd : env.find c with
    | none => simp only [hd] at h; cases h
    | some d =>
      simp only [hd, (hns d (C07.find_mem env c d hd)).2] at h
      cases h; rfl
  | obj c kw =>
    unfold represent at h
    simp only at h ⊢
    split at h
    · cases h
    · rename_i d hd
      split at h
      · cases h
      · rename_i ps tr hpairs
        split at h
        · cases h
        · rename_i n tr' hsw
          cases h
          cases C07.sweeten_id env hns _ _ d (C07.find_mem env c d hd) _ hsw
          exact ⟨ps, rfl, repPairs_all2 _ _ ps tr hpairs⟩
  | _ => trivial

end YatimlModel
