import YatimlModel.Model.Construct
/-!
Python values: `PyVals` / `PyKVs` as lists, and `Constructor.__type_matches` read off the type — a union
by one of its members, a list item by item, a dict pair by pair.
-/
namespace YatimlModel

@[simp] theorem PyVals.ofList_toList : ∀ (l : PyVals), PyVals.ofList l.toList = l
  | .nil => rfl
  | .cons x xs => by simp [PyVals.ofList, PyVals.toList, PyVals.ofList_toList xs]
@[simp] theorem PyVals.toList_ofList : ∀ (l : List PyVal), (PyVals.ofList l).toList = l
  | [] => rfl
  | x :: xs => by simp [PyVals.ofList, PyVals.toList, PyVals.toList_ofList xs]
@[simp] theorem PyKVs.ofList_toList : ∀ (l : PyKVs), PyKVs.ofList l.toList = l
  | .nil => rfl
  | .cons k v r => by simp [PyKVs.ofList, PyKVs.toList, PyKVs.ofList_toList r]
@[simp] theorem PyKVs.toList_ofList : ∀ (l : List (PyVal × PyVal)), (PyKVs.ofList l).toList = l
  | [] => rfl
  | (k, v) :: r => by simp [PyKVs.ofList, PyKVs.toList, PyKVs.toList_ofList r]

variable {env : Env} {v : PyVal}

theorem typeMatchesAny_eq (env : Env) (v : PyVal) :
    ∀ ms : Tys, typeMatchesAny env v ms = ms.toList.any (typeMatches env v)
  | .nil => by unfold typeMatchesAny; rfl
  | .cons t ts => by unfold typeMatchesAny; rw [typeMatchesAny_eq env v ts]; rfl

theorem typeMatchesAll_eq (env : Env) (t : Ty) :
    ∀ xs : PyVals, typeMatchesAll env xs t = xs.toList.all (typeMatches env · t)
  | .nil => by unfold typeMatchesAll; rfl
  | .cons x xs => by unfold typeMatchesAll; rw [typeMatchesAll_eq env t xs]; rfl

theorem typeMatchesKVs_eq (env : Env) (K V : Ty) : ∀ kvs : PyKVs,
    typeMatchesKVs env kvs K V = kvs.toList.all fun e => keyMatches env e.1 K && typeMatches env e.2 V
  | .nil => by unfold typeMatchesKVs; rfl
  | .cons k v r => by unfold typeMatchesKVs; rw [typeMatchesKVs_eq env K V r]; rfl

theorem typeMatches_union {ms : Tys} :
    typeMatches env v (.union ms) = true ↔ ∃ m ∈ ms.toList, typeMatches env v m = true := by
  conv => lhs; lhs; unfold typeMatches
  rw [typeMatchesAny_eq, List.any_eq_true]

theorem typeMatches_seq {k : SeqKind} {item : Ty} :
    typeMatches env v (.seq k item) = true ↔
      ∃ xs, v = .list xs ∧ ∀ x ∈ xs.toList, typeMatches env x item = true := by
  conv => lhs; lhs; unfold typeMatches
  cases v <;> simp only [typeMatchesAll_eq, List.all_eq_true, PyVal.list.injEq, exists_eq_left', reduceCtorEq,
    false_and, exists_false, Bool.false_eq_true]

theorem typeMatches_map {k : MapKind} {K V : Ty} :
    typeMatches env v (.map k K V) = true ↔ ∃ kvs, v = .dict kvs ∧
      ∀ e ∈ kvs.toList, keyMatches env e.1 K = true ∧ typeMatches env e.2 V = true := by
  conv => lhs; lhs; unfold typeMatches
  cases v <;> simp only [typeMatchesKVs_eq, List.all_eq_true, Bool.and_eq_true, PyVal.dict.injEq, exists_eq_left',
    reduceCtorEq, false_and, exists_false, Bool.false_eq_true]

theorem typeMatches_cls (env : Env) (v : PyVal) (c : String) :
    typeMatches env v (.cls c) = isInstanceOf env v c := by
  unfold typeMatches; rfl

end YatimlModel
