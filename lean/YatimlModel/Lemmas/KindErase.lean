import YatimlModel.Spec.Pipeline
/-!
Interchanging `List` / `Sequence` / `MutableSequence` and `Dict` / `Mapping` / `MutableMapping` in
annotations (C13): `eraseKinds` forgets which of the three spellings a container annotation uses, in a
type and — `eraseEnv` — in every constructor parameter of a class model.  Two class models / types that
differ in those spellings only have the same erasure.
-/
namespace YatimlModel
open Spec

mutual
def eraseKinds : Ty → Ty
  | .str => .str | .int => .int | .float => .float | .bool => .bool | .boolFix => .boolFix
  | .null => .null | .date => .date | .path => .path | .any => .any
  | .seq _ item => .seq .list (eraseKinds item)
  | .map _ k v => .map .dict (eraseKinds k) (eraseKinds v)
  | .union ms => .union (eraseKindsL ms)
  | .cls c => .cls c
def eraseKindsL : Tys → Tys
  | .nil => .nil
  | .cons t ts => .cons (eraseKinds t) (eraseKindsL ts)
end

def eraseParam (p : Param) : Param := { p with ty := eraseKinds p.ty }
def eraseClass (d : ClassDef) : ClassDef :=
  { d with params := d.params.map eraseParam, extraTy := d.extraTy.map eraseKinds }
def eraseEnv (env : Env) : Env := { env with registered := env.registered.map eraseClass }

def eraseReq : Req → Req
  | .ty T => .ty (eraseKinds T)
  | .classes c top => .classes c top

theorem toList_eraseL : ∀ (ms : Tys), (eraseKindsL ms).toList = ms.toList.map eraseKinds
  | .nil => rfl
  | .cons t ts => by simp [eraseKindsL, Tys.toList, toList_eraseL ts]

theorem find_erase (env : Env) (c : String) : (eraseEnv env).find c = (env.find c).map eraseClass := by
  unfold Env.find eraseEnv
  simp only [List.find?_map]
  rfl

theorem isRegistered_erase (env : Env) (c : String) : (eraseEnv env).isRegistered c = env.isRegistered c := by
  unfold Env.isRegistered eraseEnv
  simp only [List.any_map]
  rfl

theorem directSubclasses_erase (env : Env) (c : String) :
    (eraseEnv env).directSubclasses c = (env.directSubclasses c).map eraseClass := by
  unfold Env.directSubclasses eraseEnv
  simp only [List.filter_map]
  rfl

theorem keyTypeOk_erase (env : Env) (k : Ty) : keyTypeOk (eraseEnv env) (eraseKinds k) = keyTypeOk env k := by
  cases k with
  | cls c =>
    unfold eraseKinds keyTypeOk
    simp only [find_erase]
    cases env.find c <;> rfl
  | _ => rfl

theorem attrMatches_erase (m m' : Node → Ty → Bool) (hm : ∀ x U, m' x (eraseKinds U) = m x U)
    (ps : List (Node × Node)) (p : Param) : attrMatches m' ps (eraseParam p) = attrMatches m ps p := by
  unfold attrMatches valueMatches eraseParam
  simp only [hm]

theorem classMatches_erase (m m' : Node → Ty → Bool) (hm : ∀ x U, m' x (eraseKinds U) = m x U)
    (d : ClassDef) (n : Node) : classMatches m' (eraseClass d) n = classMatches m d n := by
  unfold classMatches eraseClass
  simp only [List.all_map, Function.comp_def, attrMatches_erase m m' hm]

/-- **The documented language of a type does not depend on which container spelling the annotations
use**, in the type and in the constructor parameters of the class model. -/
theorem matches_erase (env : Env) : ∀ (fuel : Nat) (n : Node) (q : Req),
    matchesReq (eraseEnv env) fuel n (eraseReq q) = matchesReq env fuel n q := by
  intro fuel
  induction fuel with
  | zero => intro n q; cases q <;> rfl
  | succ fuel ih =>
    intro n q
    have ihT : ∀ x U, matchesReq (eraseEnv env) fuel x (.ty (eraseKinds U)) = matchesReq env fuel x (.ty U) :=
      fun x U => ih x (.ty U)
    have ihC : ∀ x c top, matchesReq (eraseEnv env) fuel x (.classes c top) = matchesReq env fuel x (.classes c top) :=
      fun x c top => ih x (.classes c top)
    cases q with
    | ty T =>
      rw [eraseReq]
      unfold matchesReq
      cases T with
      | seq k item => cases n <;> simp only [eraseKinds, ihT]
      | map mk k v => cases n <;> simp only [eraseKinds, keyTypeOk_erase, ihT]
      | _ => simp only [eraseKinds, toList_eraseL, List.any_map, Function.comp_def, isRegistered_erase, ihT, ihC]
    | classes c top =>
      rw [eraseReq]
      unfold matchesReq
      rw [find_erase]
      cases env.find c with
      | none => rfl
      | some d =>
        simp only [Option.map_some, directSubclasses_erase, List.any_map, Function.comp_def, ihC,
          classMatches_erase (fun x U => matchesReq env fuel x (.ty U))
            (fun x U => matchesReq (eraseEnv env) fuel x (.ty U)) ihT]
        rfl

end YatimlModel
