import YatimlModel.Lemmas.RecFolds
/-!
If no custom recogniser of the class model can raise anything but
RecognitionError, recognition never ends in `Fatal.hook` (the one outcome that
makes a load raise an exception of another type).
-/
namespace YatimlModel
open NodeOps

/-- a recogniser step that raises nothing but RecognitionError -/
def TameRecOp : RecOp → Prop
  | .raiseOther => False
  | .requireScalar typs => ∀ t ∈ typs, ∀ n, (isScalar n t).isOk = true   -- no invalid type argument
  | _ => True

def HooksTame (env : Env) : Prop :=
  ∀ d ∈ env.registered, ∀ prog, d.recognize = some prog → ∀ op ∈ prog, TameRecOp op

def NoHook (r : RecRes) : Prop := r ≠ .error .hook

theorem recElems_noHook {rec : Node → Ty → RecRes} {T : Ty} {cs : List ElemCall}
    (hrec : ∀ x U, NoHook (rec x U)) : NoHook (recElems rec T none cs) := fun h =>
  have ⟨_, _, hc⟩ := recElems_error h
  hrec _ _ hc

theorem finishClasses_noHook (env : Env) (n : Node) (top : Bool) (ts : List Ty) (c : List (List Leaf)) :
    NoHook (finishClasses env n top ts c) := by
  rcases finishClasses_cases env n top ts c with ⟨_, h, _⟩ | ⟨_, _, _, h⟩ | ⟨_, h⟩ <;> rw [h] <;> exact nofun

theorem reqAttribute_noHook (rec : Node → Ty → RecRes) (n : Node) (a : String) (ty : Option Ty)
    (hrec : ∀ x U, NoHook (rec x U)) : reqAttribute rec n a ty ≠ .error .hook := by
  -- the one branch that can be fatal passes on an error of `rec` (`he`)
  fun_cases reqAttribute rec n a ty <;> intro h <;> cases h
  rename_i he
  exact hrec _ _ he

theorem scalarEquals_ok (ext : Ext) (v : Node) (w : PyScalar) : ∃ r, scalarEquals ext v w = .ok r := by
  fun_cases scalarEquals ext v w <;> exact ⟨_, rfl⟩

theorem reqAttrValueLoop_ok (ext : Ext) (a : String) (w : PyScalar) (neg : Bool) (ps : List (Node × Node))
    (found : Bool) : ∃ r, reqAttrValueLoop ext a w neg ps found = .ok r := by
  fun_induction reqAttrValueLoop ext a w neg ps found
  -- the branch that passes on an error of `scalarEquals` (`he`) does not occur
  case case2 e he =>
    obtain ⟨r, hr⟩ := scalarEquals_ok ext _ w
    cases hr.symm.trans he
  all_goals first | assumption | exact ⟨_, rfl⟩

theorem reqAttrValue_ok (ext : Ext) (n : Node) (a : String) (w : PyScalar) (neg : Bool) :
    ∃ r, reqAttrValue ext n a w neg = .ok r := by
  cases n with
  | map _ ps _ => exact reqAttrValueLoop_ok ext a w neg ps.toList false
  | _ => exact ⟨_, rfl⟩

theorem reqScalar_ok (n : Node) (typs : List TypArg) (h : ∀ t ∈ typs, ∀ n, (isScalar n t).isOk = true) :
    ∃ r, reqScalar n typs = .ok r := by
  unfold reqScalar
  split
  · exact ⟨_, rfl⟩
  · dsimp only
    generalize hgo : List.foldl _ _ typs = go
    obtain ⟨b, rfl⟩ : ∃ b, go = .ok b := by
      rw [← hgo]
      refine List.foldlRecOn (motive := fun acc => ∃ b, acc = Except.ok b) typs _ ⟨false, rfl⟩ ?_
      rintro _ ⟨b, rfl⟩ t ht
      cases b with
      | true => exact ⟨true, rfl⟩
      | false =>
        cases hs : isScalar n t with
        | ok b' => exact ⟨b', rfl⟩
        | error e' => have := h t ht n; rw [hs] at this; cases this
    cases b <;> exact ⟨_, rfl⟩

theorem runRecOp_noHook (ext : Ext) (rec : Node → Ty → RecRes) (n : Node) (op : RecOp)
    (hop : TameRecOp op) (hrec : ∀ x U, NoHook (rec x U)) : runRecOp ext rec n op ≠ .error .hook := by
  cases op with
  | requireScalar typs =>
    obtain ⟨r, hr⟩ := reqScalar_ok n typs hop
    exact fun h => nomatch hr.symm.trans h
  | requireAttribute a ty => exact reqAttribute_noHook rec n a ty hrec
  | requireAttributeValue a v =>
    obtain ⟨r, hr⟩ := reqAttrValue_ok ext n a v false
    exact fun h => nomatch hr.symm.trans h
  | requireAttributeValueNot a v =>
    obtain ⟨r, hr⟩ := reqAttrValue_ok ext n a v true
    exact fun h => nomatch hr.symm.trans h
  | raiseOther => exact hop.elim
  | _ => exact nofun

theorem recAttr_noHook (rec : Node → Ty → RecRes) (n : Node) (ps : List (Node × Node)) (p : Param)
    (hrec : ∀ x U, NoHook (rec x U)) : recAttr rec n ps p ≠ .error .hook := by
  have hvalue : ∀ name, valueVerdict rec ps p.ty name ≠ .error .hook := by
    intro name
    -- the one fatal answer of `valueVerdict` passes on an error of `rec` (`hr`)
    fun_cases valueVerdict rec ps p.ty name <;> intro hv <;> cases hv
    rename_i hr
    exact hrec _ _ hr
  rw [recAttr_eq]
  cases hasKey ps p.name with
  | true => exact hvalue p.name
  | false =>
    cases hasKey ps (dashed p.name) with
    | true => exact hvalue (dashed p.name)
    | false => cases p.required <;> exact nofun

theorem recUserClass_noHook (env : Env) (rec : Node → Ty → RecRes) (n : Node) (d : ClassDef)
    (hd : ∀ prog, d.recognize = some prog → ∀ op ∈ prog, TameRecOp op)
    (hrec : ∀ x U, NoHook (rec x U)) : NoHook (recUserClass env rec n d) := by
  rcases recUserClass_cases env rec n d with h | ⟨_, _, h⟩ | ⟨_, _, h⟩ | ⟨e, prog, hp, he, h⟩ | ⟨e, he, h⟩ <;>
    rw [h] <;> intro hh
  · cases hh
  · cases hh
  · cases hh
  · cases hh
    rw [runRecProg_eq] at he
    obtain ⟨op, hop, he⟩ := List.mem_map.mp (firstSome_mem he nofun)
    exact runRecOp_noHook env.ext rec n op (hd prog hp op hop) hrec he
  · cases Fatal.atMapping_hook _ _ (Except.error.inj hh)
    rw [recAttrs_eq] at he
    obtain ⟨p, _, he⟩ := List.mem_map.mp (firstSome_mem he nofun)
    exact recAttr_noHook rec n _ p hrec he

/-- **No recogniser escape.**  With tame custom recognisers, recognition never ends in `Fatal.hook`. -/
theorem recognizeReq_noHook (env : Env) (ht : HooksTame env) :
    ∀ fuel n q, NoHook (recognizeReq env fuel n q) := by
  apply recognizeReq_induct (P := fun _ _ _ r => NoHook r)
  case fuel => intro _ _ h; cases h
  case scalar =>
    intro _ n T tag _
    rw [recScalar_eq]
    cases Spec.scalarTagged n tag <;> exact nofun
  case any => intro _ _ h; cases h
  case union =>
    intro _ rec n ms ih h
    obtain ⟨m, _, hm⟩ := recUnion_error h
    exact ih n m hm
  case seq =>
    intro _ rec n k it ih
    rw [recList_eq]
    cases n.isSeqNode
    · exact nofun
    · exact recElems_noHook ih
  case map =>
    intro _ rec n k K V ih
    rw [recDict_eq]
    cases keyTypeOk env K
    · exact nofun
    · cases n.isMapNode
      · exact nofun
      · exact recElems_noHook ih
  case cls =>
    intro _ n c r h
    cases env.isRegistered c
    · exact nofun
    · exact h
  case classes =>
    intro _ rec recC n c top ih ihC
    rcases recClasses_cases env rec recC n c top with h | ⟨d, hf, ⟨s, e, he, h⟩ | ⟨sub, causes, hc, ⟨h, _⟩ |
      ⟨_, _, ⟨e, he, h⟩ | ⟨ts, ls, hu, h⟩⟩⟩⟩ <;> rw [h]
    · exact nofun
    · exact fun hh => ihC s (hh ▸ he)
    · exact finishClasses_noHook _ _ _ _ _
    · exact fun hh => recUserClass_noHook env rec n d (ht d (find_mem env c d hf)) ih (hh ▸ he)
    · exact finishClasses_noHook _ _ _ _ _

theorem recognize_noHook (env : Env) (ht : HooksTame env) (fuel : Nat) (n : Node) (T : Ty) :
    recognize env fuel n T ≠ .error .hook :=
  recognizeReq_noHook env ht fuel n (.ty T)

end YatimlModel
