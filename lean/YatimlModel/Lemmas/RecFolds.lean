import YatimlModel.Spec.Pipeline
import YatimlModel.Lemmas.Env
/-!
What the combinators of the recogniser answer, said once.

Each combinator of `Model/Recognize` walks a list and asks its call-back about every element, and only three
walks occur: `recElems` (lists and dicts: stop at the first element that is nothing, remember the first
ambiguous one), `collect` (unions and subclasses: the union of all answers, and the leaves of the empty
ones) and `firstSome` (attributes and the steps of a custom recogniser: the first objection).  A property of
recognition is proved by checking it on the answers these lemmas allow, without unfolding a combinator again.
From the answer of a combinator to those of its call-back: `recElems_ok`, `collect_ok`, `firstSome_*`,
`finishClasses_cases`, `recUserClass_cases`, `recClasses_cases`, and `recognizeReq_induct` for the recursion of
`recognizeReq` itself.  From the answers of the call-back to that of the combinator: `recElems_unique`,
`collect_single`, `collect_rejects`, `finishClasses_pick/_reject/_keep`, `recClasses_rejects/_self/_sub`.

`split` on the `if`s and `match`es of the larger of these functions is slow to check; the proofs case on the
Boolean condition, or on the shape of the list whose length is tested, instead.
-/
namespace YatimlModel
open NodeOps Spec

theorem len0_iff {α : Type} (l : List α) : (l.length == 0) = true ↔ l = [] :=
  beq_iff_eq.trans List.length_eq_zero_iff

theorem mem_insertT (t x : Ty) (s : List Ty) : t ∈ insertT x s ↔ t = x ∨ t ∈ s := by
  unfold insertT
  split
  · rename_i h
    exact ⟨Or.inr, fun h' => h'.elim (fun e => e ▸ List.contains_iff_mem.mp h) id⟩
  · rw [List.mem_append, List.mem_singleton, or_comm]

theorem mem_unionT (t : Ty) (a b : List Ty) : t ∈ unionT a b ↔ t ∈ a ∨ t ∈ b := by
  unfold unionT
  induction b generalizing a with
  | nil => simp
  | cons x xs ih => rw [List.foldl_cons, ih, mem_insertT, List.mem_cons, or_comm (a := t = x), or_assoc]

theorem insertT_nodup (t : Ty) (s : List Ty) (h : s.Nodup) : (insertT t s).Nodup := by
  unfold insertT
  split
  · exact h
  · rename_i hc
    exact (List.perm_append_singleton t s).nodup_iff.mpr
      (List.nodup_cons.mpr ⟨fun hm => hc (List.contains_iff_mem.mpr hm), h⟩)

theorem unionT_nodup (a b : List Ty) (h : a.Nodup) : (unionT a b).Nodup := by
  unfold unionT
  induction b generalizing a with
  | nil => exact h
  | cons t rest ih => exact ih _ (insertT_nodup t a h)

theorem dropBoolFix_sublist (ts : List Ty) : (dropBoolFix ts).Sublist ts := by
  unfold dropBoolFix
  split
  · exact List.filter_sublist
  · exact List.Sublist.refl ts

theorem dropBoolFix_ne (ts : List Ty) : dropBoolFix ts ≠ [] ↔ ts ≠ [] := by
  unfold dropBoolFix
  split
  · rename_i h
    simp only [Bool.and_eq_true, List.contains_iff_mem] at h
    refine ⟨fun _ => List.ne_nil_of_mem h.1, fun _ => List.ne_nil_of_mem (a := Ty.bool) ?_⟩
    exact List.mem_filter.mpr ⟨h.1, by decide⟩
  · rfl

theorem dropBoolFix_single (R : Ty) : dropBoolFix [R] = [R] := by
  cases R <;> rfl

theorem recOk_eq_ok_iff {T : Ty} {ts : List Ty} {ls : List Leaf} : recOk T = .ok (ts, ls) ↔ ts = [T] ∧ ls = [okLeaf] := by
  simp only [recOk, Except.ok.injEq, Prod.mk.injEq, @eq_comm _ ts, @eq_comm _ ls]

theorem recFail_eq_ok_iff {m : List Mark} {k : List String} {ts : List Ty} {ls : List Leaf} :
    recFail m k = .ok (ts, ls) ↔ ts = [] ∧ ls = [⟨m, k⟩] := by
  simp only [recFail, Except.ok.injEq, Prod.mk.injEq, @eq_comm _ ts, @eq_comm _ ls]

theorem recScalar_eq (n : Node) (T : Ty) (tag : String) :
    recScalar n T tag = if scalarTagged n tag then recOk T else recFail [n.mark] := by
  cases n <;> rfl

/-- a sub-request of a container position: the element, the type expected of it, and how an ambiguous
answer for it is re-wrapped -/
abbrev ElemCall := Node × Ty × (Ty → Ty)

def recElems (rec : Node → Ty → RecRes) (T : Ty) : Option RecOut → List ElemCall → RecRes
  | amb, [] => recDone T amb
  | amb, (x, U, w) :: rest =>
    match rec x U with
    | .error e => .error e
    | .ok (ts, ls) => if ts.length == 0 then .ok ([], ls) else recElems rec T (noteAmb amb ts w ls) rest

def seqCalls (it : Ty) (xs : List Node) : List ElemCall := xs.map fun x => (x, it, Ty.seq .list)

def mapCalls (K V : Ty) (ps : List (Node × Node)) : List ElemCall :=
  ps.flatMap fun p => [(p.1, K, fun t => Ty.map .dict t V), (p.2, V, fun t => Ty.map .dict K t)]

theorem forall_mapCalls {K V : Ty} {ps : List (Node × Node)} {P : ElemCall → Prop}
    (h : ∀ p ∈ ps, P (p.1, K, (.map .dict · V)) ∧ P (p.2, V, .map .dict K)) : ∀ c ∈ mapCalls K V ps, P c := by
  intro c hc
  obtain ⟨p, hp, _ | ⟨_, _ | ⟨_, hc⟩⟩⟩ := List.mem_flatMap.mp hc
  · exact (h p hp).1
  · exact (h p hp).2
  · cases hc

theorem recListItems_eq (rec : Node → Ty → RecRes) (T it : Ty) (xs : List Node) (amb : Option RecOut) :
    recListItems rec T it amb xs = recElems rec T amb (seqCalls it xs) := by
  induction xs generalizing amb with
  | nil => rfl
  | cons x xs ih =>
    rw [recListItems, seqCalls, List.map_cons, recElems]
    cases rec x it with
    | error e => rfl
    | ok o => simp only [ih, seqCalls]

theorem recDictPairs_eq (rec : Node → Ty → RecRes) (T K V : Ty) (ps : List (Node × Node)) (amb : Option RecOut) :
    recDictPairs rec T K V amb ps = recElems rec T amb (mapCalls K V ps) := by
  induction ps generalizing amb with
  | nil => rfl
  | cons p ps ih =>
    show _ = recElems rec T amb (_ :: _ :: mapCalls K V ps)
    rw [recDictPairs, recElems]
    -- with the list of types as `[]` or a cons, the tests `length == 0` compute
    rcases rec p.1 K with e | ⟨_ | ⟨t, ts⟩, l⟩
    · rfl
    · rfl
    · dsimp only
      rw [recElems]
      rcases rec p.2 V with e | ⟨_ | ⟨u, us⟩, l'⟩
      · rfl
      · rfl
      · exact ih _

theorem recList_eq (rec : Node → Ty → RecRes) (n : Node) (T it : Ty) :
    recList rec n T it =
      if n.isSeqNode then recElems rec T none (seqCalls it n.items) else recFail [n.mark] := by
  cases n with
  | seq t xs m => exact recListItems_eq rec T it _ none
  | _ => rfl

theorem recDict_eq (env : Env) (rec : Node → Ty → RecRes) (n : Node) (T K V : Ty) :
    recDict env rec n T K V =
      if keyTypeOk env K then
        if n.isMapNode then recElems rec T none (mapCalls K V n.pairs) else recFail [n.mark]
      else .error .dictKey := by
  unfold recDict
  cases keyTypeOk env K with
  | false => rfl
  | true =>
    cases n with
    | map t ps m => exact recDictPairs_eq rec T K V _ none
    | _ => rfl

theorem recElems_error {rec : Node → Ty → RecRes} {T : Ty} {e : Fatal} {cs : List ElemCall} {amb : Option RecOut}
    (h : recElems rec T amb cs = .error e) : ∃ c ∈ cs, rec c.1 c.2.1 = .error e := by
  -- the goals, in the order of `recElems`: no call left; the first call fails, is nothing, is something (`ih`)
  fun_induction recElems rec T amb cs
  · rename_i amb
    cases amb <;> cases h
  · rename_i hx
    cases h
    exact ⟨_, List.mem_cons_self, hx⟩
  · cases h
  · rename_i ih
    obtain ⟨c', hc, he⟩ := ih h
    exact ⟨c', List.mem_cons_of_mem _ hc, he⟩

theorem recElems_ok {rec : Node → Ty → RecRes} {T : Ty} {ts : List Ty} {ls : List Leaf} {cs : List ElemCall}
    {amb : Option RecOut} (h : recElems rec T amb cs = .ok (ts, ls)) :
    (ts = [] ∧ ∃ c ∈ cs, rec c.1 c.2.1 = .ok ([], ls)) ∨
    ((∀ c ∈ cs, ∃ ts' ls', rec c.1 c.2.1 = .ok (ts', ls') ∧ ts' ≠ []) ∧
      (amb = some (ts, ls) ∨ amb = none ∧ (ts = [T] ∨
        ∃ c ∈ cs, ∃ ts', rec c.1 c.2.1 = .ok (ts', ls) ∧ ts'.length > 1 ∧ ts = ts'.map c.2.2))) := by
  -- the goals, in the order of `recElems`: no call left; the first call fails, is nothing, is something (`ih`)
  fun_induction recElems rec T amb cs
  · rename_i amb
    refine Or.inr ⟨List.forall_mem_nil _, ?_⟩
    cases amb with
    | none => exact Or.inr ⟨rfl, Or.inl (recOk_eq_ok_iff.mp h).1⟩
    | some r => cases h; exact Or.inl rfl
  · cases h
  · rename_i ts' _ hx h0
    cases h
    cases (len0_iff ts').mp h0
    exact Or.inl ⟨rfl, _, List.mem_cons_self, hx⟩
  · rename_i amb _ _ _ _ ts' ls' hx h0 ih
    rcases ih h with ⟨rfl, c', hc, he⟩ | ⟨hall, hres⟩
    · exact Or.inl ⟨rfl, c', List.mem_cons_of_mem _ hc, he⟩
    · refine Or.inr ⟨List.forall_mem_cons.mpr ⟨⟨_, ls', hx, mt (len0_iff ts').mpr h0⟩, hall⟩, ?_⟩
      cases amb with
      | some r => exact hres.imp_right fun h => nomatch h.1
      | none =>
        refine Or.inr ⟨rfl, ?_⟩
        rcases ts' with _ | ⟨t, _ | ⟨u, r⟩⟩
        · exact absurd rfl h0
        · rcases hres with hres | ⟨_, rfl | ⟨c', hc, hr⟩⟩
          · cases hres
          · exact Or.inl rfl
          · exact Or.inr ⟨c', List.mem_cons_of_mem _ hc, hr⟩
        · rcases hres with hres | ⟨hres, _⟩
          · cases hres
            exact Or.inr ⟨_, List.mem_cons_self, _, hx, Nat.le_add_left 2 r.length, rfl⟩
          · cases hres

theorem recElems_congr {rec rec' : Node → Ty → RecRes} (T : Ty) {cs : List ElemCall} (amb : Option RecOut)
    (h : ∀ c ∈ cs, rec' c.1 c.2.1 = rec c.1 c.2.1) : recElems rec' T amb cs = recElems rec T amb cs := by
  induction cs generalizing amb with
  | nil => rfl
  | cons c rest ih =>
    rw [recElems, recElems, h _ List.mem_cons_self]
    cases rec c.1 c.2.1 with
    | error e => rfl
    | ok o => simp only [ih _ (List.forall_mem_cons.mp h).2]

theorem recElems_unique {rec : Node → Ty → RecRes} (T : Ty) {cs : List ElemCall}
    (h : ∀ c ∈ cs, ∃ R l, rec c.1 c.2.1 = .ok ([R], l)) : recElems rec T none cs = recOk T := by
  induction cs with
  | nil => rfl
  | cons c rest ih =>
    obtain ⟨⟨R, l, hr⟩, hrest⟩ := List.forall_mem_cons.mp h
    rw [recElems, hr]
    exact ih hrest

def collect : List RecRes → List Ty × List (List Leaf) → Except Fatal (List Ty × List (List Leaf))
  | [], acc => .ok acc
  | .error e :: _, _ => .error e
  | .ok (ts, ls) :: rs, acc => collect rs (unionT acc.1 ts, if ts.length == 0 then acc.2 ++ [ls] else acc.2)

theorem recUnionMembers_eq (rec : Node → Ty → RecRes) (n : Node) (ms : List Ty) (acc : UnionAcc) :
    recUnionMembers rec n ms acc = (collect (ms.map (rec n)) (acc.types, acc.causes)).map fun a => ⟨a.1, a.2⟩ := by
  induction ms generalizing acc with
  | nil => rfl
  | cons m ms ih =>
    rw [recUnionMembers, List.map_cons]
    cases rec n m with
    | error e => rfl
    | ok o => exact ih _

theorem recSubclasses_eq (recC : ClassDef → RecRes) (ds : List ClassDef) (acc : ClsAcc) :
    recSubclasses recC ds acc = (collect (ds.map recC) (acc.types, acc.causes)).map fun a => ⟨a.1, a.2⟩ := by
  induction ds generalizing acc with
  | nil => rfl
  | cons d ds ih =>
    rw [recSubclasses, List.map_cons]
    cases recC d with
    | error e => rfl
    | ok o => exact ih _

theorem collect_error {e : Fatal} {rs : List RecRes} {acc : List Ty × List (List Leaf)}
    (h : collect rs acc = .error e) : Except.error e ∈ rs := by
  induction rs generalizing acc with
  | nil => cases h
  | cons r rs ih =>
    rcases r with e' | ⟨ts, ls⟩
    · cases h; exact List.mem_cons_self
    · exact List.mem_cons_of_mem _ (ih h)

theorem collect_isOk {rs : List RecRes} (acc : List Ty × List (List Leaf))
    (h : ∀ r ∈ rs, ∃ o, r = .ok o) : ∃ a, collect rs acc = .ok a := by
  induction rs generalizing acc with
  | nil => exact ⟨acc, rfl⟩
  | cons r rs ih =>
    obtain ⟨⟨⟨ts, ls⟩, rfl⟩, hrs⟩ := List.forall_mem_cons.mp h
    exact ih _ hrs

theorem collect_ok_acc {rs : List RecRes} {acc acc' : List Ty × List (List Leaf)} (h : collect rs acc = .ok acc') :
    (∀ r ∈ rs, ∃ o, r = .ok o) ∧
    (∀ t, t ∈ acc'.1 ↔ t ∈ acc.1 ∨ ∃ ts ls, Except.ok (ts, ls) ∈ rs ∧ t ∈ ts) ∧
    (acc.1.Nodup → acc'.1.Nodup) ∧
    (∀ c ∈ acc'.2, c ∈ acc.2 ∨ Except.ok ([], c) ∈ rs) := by
  induction rs generalizing acc with
  | nil =>
    cases h
    refine ⟨List.forall_mem_nil _, fun t => ⟨Or.inl, ?_⟩, id, fun c => Or.inl⟩
    rintro (h | ⟨_, _, ⟨⟩, _⟩)
    exact h
  | cons r rs ih =>
    rcases r with e | ⟨ts, ls⟩
    · cases h
    · obtain ⟨h1, h2, h3, h4⟩ := ih h
      refine ⟨List.forall_mem_cons.mpr ⟨⟨_, rfl⟩, h1⟩, fun t => ?_, fun hn => h3 (unionT_nodup _ _ hn), fun c hc => ?_⟩
      · simp only [h2, mem_unionT, or_assoc, List.mem_cons, Except.ok.injEq, Prod.mk.injEq, or_and_right, exists_or,
          and_assoc, exists_and_left, exists_eq_left]
      · rcases h4 c hc with hc | hc
        · rcases ts with _ | ⟨t, ts⟩
          · rcases List.mem_append.mp hc with hc | hc
            · exact Or.inl hc
            · exact Or.inr (List.mem_singleton.mp hc ▸ List.mem_cons_self)
          · exact Or.inl hc
        · exact Or.inr (List.mem_cons_of_mem _ hc)

structure Collected (rs : List RecRes) (ts : List Ty) (causes : List (List Leaf)) : Prop where
  allOk : ∀ r ∈ rs, ∃ o, r = .ok o
  mem : ∀ t, t ∈ ts ↔ ∃ ts' ls', Except.ok (ts', ls') ∈ rs ∧ t ∈ ts'
  nodup : ts.Nodup
  causes : ∀ c ∈ causes, Except.ok ([], c) ∈ rs

theorem collect_ok {rs : List RecRes} {ts : List Ty} {causes : List (List Leaf)}
    (h : collect rs ([], []) = .ok (ts, causes)) : Collected rs ts causes := by
  obtain ⟨h1, h2, h3, h4⟩ := collect_ok_acc h
  exact ⟨h1, fun t => (h2 t).trans (or_iff_right List.not_mem_nil), h3 List.nodup_nil,
    fun c hc => (h4 c hc).resolve_left List.not_mem_nil⟩

theorem collect_rejects {α : Type} {f : α → RecRes} {xs : List α} (h : ∀ x ∈ xs, ∃ l, f x = .ok ([], l))
    (acc : List Ty × List (List Leaf)) : ∃ causes, collect (xs.map f) acc = .ok (acc.1, causes) := by
  induction xs generalizing acc with
  | nil => exact ⟨_, rfl⟩
  | cons x xs ih =>
    obtain ⟨⟨l, hl⟩, hxs⟩ := List.forall_mem_cons.mp h
    rw [List.map_cons, hl]
    exact ih hxs _

theorem collect_single {α : Type} (f : α → RecRes) (R : Ty) (xs : List α) (acc : List Ty × List (List Leaf))
    (hall : ∀ x ∈ xs, (∃ l, f x = .ok ([R], l)) ∨ ∃ l, f x = .ok ([], l)) (ha : acc.1 = [] ∨ acc.1 = [R]) :
    ∃ acc', collect (xs.map f) acc = .ok acc' ∧ (acc'.1 = [] ∨ acc'.1 = [R]) ∧
      ((acc.1 = [R] ∨ ∃ x ∈ xs, ∃ l, f x = .ok ([R], l)) → acc'.1 = [R]) := by
  induction xs generalizing acc with
  | nil => exact ⟨acc, rfl, ha, fun h => h.resolve_right (by rintro ⟨_, ⟨⟩, _⟩)⟩
  | cons x xs ih =>
    obtain ⟨hx, hxs⟩ := List.forall_mem_cons.mp hall
    rw [List.map_cons]
    rcases hx with ⟨l, hl⟩ | ⟨l, hl⟩ <;> rw [hl]
    · have hu : unionT acc.1 [R] = [R] := by rcases ha with h | h <;> simp [h, unionT, insertT]
      obtain ⟨acc', hc, h1, h2⟩ := ih (unionT acc.1 [R], acc.2) hxs (Or.inr hu)
      exact ⟨acc', hc, h1, fun _ => h2 (Or.inl hu)⟩
    · obtain ⟨acc', hc, h1, h2⟩ := ih (acc.1, acc.2 ++ [l]) hxs ha
      refine ⟨acc', hc, h1, fun h => h2 (h.imp_right ?_)⟩
      rintro ⟨y, hy, l', hl'⟩
      rcases List.mem_cons.mp hy with rfl | hy
      · rw [hl] at hl'; cases hl'
      · exact ⟨y, hy, l', hl'⟩

theorem recUnion_eq (rec : Node → Ty → RecRes) (n : Node) (ms : List Ty) :
    recUnion rec n ms =
      match collect (ms.map (rec n)) ([], []) with
      | .error e => .error e
      | .ok (ts, causes) =>
        .ok (dropBoolFix ts, if (dropBoolFix ts).length == 1 then [okLeaf] else leavesOf ⟨[n.mark], []⟩ causes) := by
  rw [recUnion.eq_def, recUnionMembers_eq]
  cases collect (ms.map (rec n)) ([], []) with
  | error e => rfl
  | ok a =>
    dsimp only [Except.map]
    cases (dropBoolFix a.1).length == 1 <;> rfl

theorem recUnion_error {rec : Node → Ty → RecRes} {n : Node} {ms : List Ty} {e : Fatal}
    (h : recUnion rec n ms = .error e) : ∃ m ∈ ms, rec n m = .error e := by
  rw [recUnion_eq] at h
  split at h
  · cases h
    exact List.mem_map.mp (collect_error ‹_›)
  · cases h

theorem recUnion_ok {rec : Node → Ty → RecRes} {n : Node} {ms : List Ty} {ts : List Ty} {ls : List Leaf}
    (h : recUnion rec n ms = .ok (ts, ls)) :
    ∃ ts0 causes, Collected (ms.map (rec n)) ts0 causes ∧ ts = dropBoolFix ts0 ∧
      ls = if (dropBoolFix ts0).length == 1 then [okLeaf] else leavesOf ⟨[n.mark], []⟩ causes := by
  rw [recUnion_eq] at h
  split at h
  · cases h
  · cases h
    exact ⟨_, _, collect_ok ‹_›, rfl, rfl⟩

def firstSome {α : Type} : List (Except Fatal (Option α)) → Except Fatal (Option α)
  | [] => .ok none
  | .error e :: _ => .error e
  | .ok (some a) :: _ => .ok (some a)
  | .ok none :: rs => firstSome rs

theorem recAttrs_eq (rec : Node → Ty → RecRes) (n : Node) (ps : List (Node × Node)) (params : List Param) :
    recAttrs rec n ps params = firstSome (params.map (recAttr rec n ps)) := by
  induction params with
  | nil => rfl
  | cons p rest ih =>
    rw [recAttrs, List.map_cons]
    rcases recAttr rec n ps p with e | _ | a
    · rfl
    · exact ih
    · rfl

theorem runRecProg_eq (ext : Ext) (rec : Node → Ty → RecRes) (n : Node) (prog : List RecOp) :
    runRecProg ext rec n prog = firstSome (prog.map (runRecOp ext rec n)) := by
  induction prog with
  | nil => rfl
  | cons op ops ih =>
    rw [runRecProg, List.map_cons]
    rcases runRecOp ext rec n op with e | _ | a
    · rfl
    · exact ih
    · rfl

theorem firstSome_mem {α : Type} {rs : List (Except Fatal (Option α))} {r : Except Fatal (Option α)}
    (h : firstSome rs = r) (hr : r ≠ .ok none) : r ∈ rs := by
  induction rs with
  | nil => exact (hr h.symm).elim
  | cons x xs ih =>
    rcases x with e | _ | a
    · exact h ▸ List.mem_cons_self
    · exact List.mem_cons_of_mem _ (ih h)
    · exact h ▸ List.mem_cons_self

theorem firstSome_none {α : Type} {rs : List (Except Fatal (Option α))} :
    firstSome rs = .ok none ↔ ∀ r ∈ rs, r = .ok none := by
  induction rs with
  | nil => exact ⟨fun _ => List.forall_mem_nil _, fun _ => rfl⟩
  | cons x xs ih =>
    rw [List.forall_mem_cons]
    rcases x with e | _ | a
    · exact ⟨nofun, fun h => (nomatch h.1)⟩
    · exact ih.trans (and_iff_right rfl).symm
    · exact ⟨nofun, fun h => (nomatch h.1)⟩

/-- the verdict on one spelling of an attribute name that the mapping has: the key must occur once, and
its value be recognised as something -/
def valueVerdict (rec : Node → Ty → RecRes) (ps : List (Node × Node)) (ty : Ty) (name : String) :
    Except Fatal (Option (List Leaf)) :=
  match valuesOf ps name with
  | [v] =>
    match rec v ty with
    | .error e => .error e
    | .ok (ts, ls) => if ts.length == 0 then .ok (some ls) else .ok none
  | _ => .error (.seasoning [])

theorem valueVerdict_cases (rec : Node → Ty → RecRes) (ps : List (Node × Node)) (ty : Ty) (name : String) :
    valueVerdict rec ps ty name = .error (.seasoning []) ∨
    ∃ v, valuesOf ps name = [v] ∧
      ((∃ e, rec v ty = .error e ∧ valueVerdict rec ps ty name = .error e) ∨
       (∃ ls, rec v ty = .ok ([], ls) ∧ valueVerdict rec ps ty name = .ok (some ls)) ∨
       (∃ ts ls, rec v ty = .ok (ts, ls) ∧ ts ≠ [] ∧ valueVerdict rec ps ty name = .ok none)) := by
  fun_cases valueVerdict rec ps ty name
  · rename_i v hv e he
    exact Or.inr ⟨v, hv, Or.inl ⟨e, he, rfl⟩⟩
  · rename_i v hv ts ls hr h0
    cases (len0_iff ts).mp h0
    exact Or.inr ⟨v, hv, Or.inr (Or.inl ⟨ls, hr, rfl⟩)⟩
  · rename_i v hv ts ls hr h0
    exact Or.inr ⟨v, hv, Or.inr (Or.inr ⟨ts, ls, hr, mt (len0_iff ts).mpr h0, rfl⟩)⟩
  · exact Or.inl rfl

theorem mem_of_valuesOf {ps : List (Node × Node)} {name : String} {v : Node} {rest : List Node}
    (h : valuesOf ps name = v :: rest) : v ∈ ps.map (·.2) :=
  List.map_subset _ List.filter_sublist.subset (h ▸ List.mem_cons_self : v ∈ valuesOf ps name)

/-- `recAttr` in the shape of `Spec.attrMatches` -/
theorem recAttr_eq (rec : Node → Ty → RecRes) (n : Node) (ps : List (Node × Node)) (p : Param) :
    recAttr rec n ps p =
      if hasKey ps p.name then valueVerdict rec ps p.ty p.name
      else if hasKey ps (dashed p.name) then valueVerdict rec ps p.ty (dashed p.name)
      else if p.required then .ok (some [⟨[n.mark], [p.name]⟩]) else .ok none := by
  unfold recAttr tryAttrName
  cases hasKey ps p.name with
  | true => rfl
  | false => cases hasKey ps (dashed p.name) <;> rfl

/-! ### the tail of `__recognize_user_classes`: the candidates are kept, or the node's tag picks one of
several, or it contradicts the only one -/

theorem finishClasses_pick {env : Env} {n : Node} {ts : List Ty} {d : ClassDef} (top : Bool)
    (causes : List (List Leaf)) (hmany : ts.length > 1) (htag : env.byTag n.tag = some d)
    (hin : .cls d.name ∈ ts) : finishClasses env n top ts causes = recOk (.cls d.name) := by
  have h0 : (ts.length == 0) = false := beq_false_of_ne (Nat.ne_zero_of_lt hmany)
  simp [finishClasses, h0, hmany, htag, hin]

theorem finishClasses_reject {env : Env} {n : Node} {ts : List Ty} (top : Bool) (causes : List (List Leaf))
    (hone : ts.length = 1) (huser : hasPrefix "tag:yaml.org,2002" n.tag = false)
    (hbad : ∀ d, env.byTag n.tag = some d → .cls d.name ∉ ts) :
    finishClasses env n top ts causes = recFail [n.mark] := by
  simp only [finishClasses, hone, huser]
  cases hb : env.byTag n.tag with
  | none => rfl
  | some d => simp [hbad d hb]

theorem finishClasses_keep {env : Env} {n : Node} {ts : List Ty} (top : Bool) (causes : List (List Leaf))
    (hpick : ts.length > 1 → ∀ d, env.byTag n.tag = some d → .cls d.name ∉ ts)
    (hrej : ts.length = 1 → hasPrefix "tag:yaml.org,2002" n.tag = false →
      ∃ d, env.byTag n.tag = some d ∧ .cls d.name ∈ ts) :
    ∃ ls, finishClasses env n top ts causes = .ok (ts, ls) ∧ (ts.length = 1 → ls = [okLeaf]) ∧
      (ts.length ≠ 1 → ∃ own : Leaf, (causes = [] → own.marks ≠ []) ∧ ls = leavesOf own causes) := by
  rcases ts with _ | ⟨t, _ | ⟨u, r⟩⟩
  · exact ⟨_, rfl, nofun, fun _ => ⟨_, fun h => by simp [-BEq.rfl, h], rfl⟩⟩
  · refine ⟨[okLeaf], ?_, fun _ => rfl, fun h => (h rfl).elim⟩
    cases hu : hasPrefix "tag:yaml.org,2002" n.tag with
    | true => simp [finishClasses, hu]
    | false =>
      obtain ⟨d, hd, hin⟩ := hrej rfl hu
      simp [finishClasses, hu, hd, List.mem_singleton.mp hin]
  · refine ⟨leavesOf ⟨[n.mark], []⟩ causes, ?_, nofun, fun _ => ⟨_, fun _ => by simp, rfl⟩⟩
    cases hb : env.byTag n.tag with
    | none => simp [finishClasses, hb]
    | some d =>
      have := hpick (by simp) d hb
      simp [finishClasses, hb, this]

theorem finishClasses_cases (env : Env) (n : Node) (top : Bool) (ts : List Ty) (causes : List (List Leaf)) :
    (∃ ls, finishClasses env n top ts causes = .ok (ts, ls) ∧ (ts.length = 1 → ls = [okLeaf]) ∧
      (ts.length ≠ 1 → ∃ own : Leaf, (causes = [] → own.marks ≠ []) ∧ ls = leavesOf own causes)) ∨
    (∃ d, env.byTag n.tag = some d ∧ .cls d.name ∈ ts ∧ finishClasses env n top ts causes = recOk (.cls d.name)) ∨
    (hasPrefix "tag:yaml.org,2002" n.tag = false ∧ finishClasses env n top ts causes = recFail [n.mark]) := by
  -- `by_cases` would first search for a `Decidable` instance of these implications, which is slow to fail
  rcases Classical.em (ts.length > 1 → ∀ d, env.byTag n.tag = some d → .cls d.name ∉ ts) with hp | hp
  · rcases Classical.em (ts.length = 1 → hasPrefix "tag:yaml.org,2002" n.tag = false →
        ∃ d, env.byTag n.tag = some d ∧ .cls d.name ∈ ts) with hr | hr
    · exact Or.inl (finishClasses_keep top causes hp hr)
    · simp only [Classical.not_imp, not_exists, not_and] at hr
      exact Or.inr (Or.inr ⟨hr.2.1, finishClasses_reject top causes hr.1 hr.2.1 hr.2.2⟩)
  · simp only [Classical.not_imp, Classical.not_forall, Classical.not_not] at hp
    obtain ⟨hmany, d, hd, hin⟩ := hp
    exact Or.inr (Or.inl ⟨d, hd, hin, finishClasses_pick top causes hmany hd hin⟩)

theorem finishClasses_sublist {env : Env} {n : Node} {top : Bool} {ts0 ts : List Ty} {causes : List (List Leaf)}
    {ls : List Leaf} (h : finishClasses env n top ts0 causes = .ok (ts, ls)) : ts.Sublist ts0 := by
  rcases finishClasses_cases env n top ts0 causes with ⟨_, h', _⟩ | ⟨d, _, hin, h'⟩ | ⟨_, h'⟩ <;>
    rw [h'] at h <;> cases h
  · exact List.Sublist.refl _
  · exact List.singleton_sublist.mpr hin
  · exact List.nil_sublist _

theorem recUserClass_cases (env : Env) (rec : Node → Ty → RecRes) (n : Node) (d : ClassDef) :
    recUserClass env rec n d = recOk (.cls d.name) ∨
    (∃ m ks, recUserClass env rec n d = recFail (n.mark :: m) ks) ∨
    (∃ ls, recAttrs rec n n.pairs d.params = .ok (some ls) ∧ recUserClass env rec n d = .ok ([], ls)) ∨
    (∃ e prog, d.recognize = some prog ∧ runRecProg env.ext rec n prog = .error e ∧
      recUserClass env rec n d = .error e) ∨
    (∃ e, recAttrs rec n n.pairs d.params = .error e ∧ recUserClass env rec n d = .error (e.atMapping n.mark)) := by
  -- the goals, in the order of `recUserClass`: a custom recogniser fails, accepts, objects; an enum and a string-like
  -- on a scalar with a fitting tag, another scalar, another node (three each); a plain class whose attributes fail,
  -- are all there, raise an objection, and on a node that is no mapping
  fun_cases recUserClass env rec n d
  · rename_i prog hp e he
    exact Or.inr (Or.inr (Or.inr (Or.inl ⟨e, prog, hp, he, rfl⟩)))
  · exact Or.inl rfl
  · exact Or.inr (Or.inl ⟨_, _, rfl⟩)
  · exact Or.inl rfl
  · exact Or.inr (Or.inl ⟨_, _, rfl⟩)
  · exact Or.inr (Or.inl ⟨_, _, rfl⟩)
  · exact Or.inl rfl
  · exact Or.inr (Or.inl ⟨_, _, rfl⟩)
  · exact Or.inr (Or.inl ⟨_, _, rfl⟩)
  · rename_i e he
    rw [he]
    exact Or.inr (Or.inr (Or.inr (Or.inr ⟨e, he, rfl⟩)))
  · rename_i he
    rw [he]
    exact Or.inl rfl
  · rename_i ls he
    rw [he]
    exact Or.inr (Or.inr (Or.inl ⟨ls, he, rfl⟩))
  · exact Or.inr (Or.inl ⟨_, _, rfl⟩)

theorem recUserClass_types {env : Env} {rec : Node → Ty → RecRes} {n : Node} {d : ClassDef} {ts : List Ty}
    {ls : List Leaf} (h : recUserClass env rec n d = .ok (ts, ls)) : ts = [] ∨ ts = [.cls d.name] := by
  rcases recUserClass_cases env rec n d with h' | ⟨_, _, h'⟩ | ⟨_, _, h'⟩ | ⟨_, _, _, _, h'⟩ | ⟨_, _, h'⟩ <;>
    rw [h'] at h <;> cases h
  · exact Or.inr rfl
  · exact Or.inl rfl
  · exact Or.inl rfl

/-- one step of `__recognize_user_classes` for class `c`, the recursive calls abstracted: `recognizeReq`
on `.classes c top` is `recClasses` of itself with less fuel (`recognizeReq_classes`) -/
def recClasses (env : Env) (rec : Node → Ty → RecRes) (recC : ClassDef → RecRes) (n : Node) (c : String)
    (top : Bool) : RecRes :=
  match env.find c with
  | none => .error .unregistered
  | some d =>
    match collect ((env.directSubclasses c).map recC) ([], []) with
    | .error e => .error e
    | .ok (sub, causes) =>
      if sub.length == 0 then
        if d.abstract then finishClasses env n top [] causes
        else
          match recUserClass env rec n d with
          | .error e => .error e
          | .ok (ts, ls) => finishClasses env n top ts (if ts.length == 0 then causes ++ [ls] else causes)
      else finishClasses env n top sub causes

theorem recClasses_cases (env : Env) (rec : Node → Ty → RecRes) (recC : ClassDef → RecRes) (n : Node) (c : String)
    (top : Bool) :
    recClasses env rec recC n c top = .error .unregistered ∨
    ∃ d, env.find c = some d ∧
      ((∃ s e, recC s = .error e ∧ recClasses env rec recC n c top = .error e) ∨
       ∃ sub causes, Collected ((env.directSubclasses c).map recC) sub causes ∧
        ((recClasses env rec recC n c top = finishClasses env n top sub causes ∧ (sub = [] → d.abstract = true)) ∨
         (sub = [] ∧ d.abstract = false ∧
          ((∃ e, recUserClass env rec n d = .error e ∧ recClasses env rec recC n c top = .error e) ∨
           ∃ ts ls, recUserClass env rec n d = .ok (ts, ls) ∧ recClasses env rec recC n c top =
             finishClasses env n top ts (if ts.length == 0 then causes ++ [ls] else causes))))) := by
  -- the goals, in the order of `recClasses`: unregistered; a subclass fails; no subclass took the node and the class
  -- is abstract, fails, answers; some subclass took it
  fun_cases recClasses env rec recC n c top
  · exact Or.inl rfl
  · rename_i d hf e hc
    obtain ⟨s, _, he⟩ := List.mem_map.mp (collect_error hc)
    exact Or.inr ⟨d, hf, Or.inl ⟨s, e, he, rfl⟩⟩
  · rename_i d hf sub causes hc h0 ha
    cases (len0_iff sub).mp h0
    exact Or.inr ⟨d, hf, Or.inr ⟨[], causes, collect_ok hc, Or.inl ⟨rfl, fun _ => ha⟩⟩⟩
  · rename_i d hf sub causes hc h0 ha e hu
    cases (len0_iff sub).mp h0
    exact Or.inr ⟨d, hf, Or.inr ⟨[], causes, collect_ok hc,
      Or.inr ⟨rfl, eq_false_of_ne_true ha, Or.inl ⟨e, hu, rfl⟩⟩⟩⟩
  · rename_i d hf sub causes hc h0 ha ts ls hu
    cases (len0_iff sub).mp h0
    exact Or.inr ⟨d, hf, Or.inr ⟨[], causes, collect_ok hc,
      Or.inr ⟨rfl, eq_false_of_ne_true ha, Or.inr ⟨ts, ls, hu, rfl⟩⟩⟩⟩
  · rename_i d hf sub causes hc h0
    exact Or.inr ⟨d, hf, Or.inr ⟨sub, causes, collect_ok hc, Or.inl ⟨rfl, fun e => absurd ((len0_iff sub).mpr e) h0⟩⟩⟩

section
variable {env : Env} {rec : Node → Ty → RecRes} {recC : ClassDef → RecRes} {n : Node} {c : String} {d : ClassDef}
  (top : Bool) (hf : env.find c = some d)
include hf

theorem recClasses_rejects (hsub : ∀ s ∈ env.directSubclasses c, ∃ l, recC s = .ok ([], l))
    (hself : d.abstract = false → ∃ l, recUserClass env rec n d = .ok ([], l)) :
    ∃ l, recClasses env rec recC n c top = .ok ([], l) := by
  obtain ⟨causes, hc⟩ := collect_rejects hsub ([], [])
  rw [recClasses, hf]
  simp only [hc]
  cases hab : d.abstract
  · obtain ⟨l, hl⟩ := hself hab
    rw [hl]
    exact ⟨_, rfl⟩
  · exact ⟨_, rfl⟩

theorem recClasses_self (l : List Leaf) (hconc : d.abstract = false)
    (hsub : ∀ s ∈ env.directSubclasses c, ∃ l, recC s = .ok ([], l))
    (hself : recUserClass env rec n d = .ok ([.cls c], l)) (htag : hasPrefix "tag:yaml.org,2002" n.tag = true) :
    recClasses env rec recC n c top = .ok ([.cls c], [okLeaf]) := by
  obtain ⟨causes, hc⟩ := collect_rejects hsub ([], [])
  rw [recClasses, hf]
  simp [-BEq.rfl, hc, hconc, hself, finishClasses, htag]

/-- the class itself is not tried when a subclass has taken the node -/
theorem recClasses_sub (R : Ty)
    (hall : ∀ s ∈ env.directSubclasses c, (∃ l, recC s = .ok ([R], l)) ∨ ∃ l, recC s = .ok ([], l))
    (hone : ∃ s ∈ env.directSubclasses c, ∃ l, recC s = .ok ([R], l))
    (htag : hasPrefix "tag:yaml.org,2002" n.tag = true) :
    recClasses env rec recC n c top = .ok ([R], [okLeaf]) := by
  obtain ⟨⟨ts, causes⟩, hc, _, h1⟩ := collect_single recC R _ ([], []) hall (Or.inl rfl)
  obtain rfl : ts = [R] := h1 (Or.inr hone)
  rw [recClasses, hf]
  simp [hc, finishClasses, htag]

end

theorem recognizeReq_classes (env : Env) (fuel : Nat) (n : Node) (c : String) (top : Bool) :
    recognizeReq env (fuel + 1) n (.classes c top) =
      recClasses env (fun x U => recognizeReq env fuel x (.ty U))
        (fun s => recognizeReq env fuel n (.classes s.name false)) n c top := by
  -- `unfold recognizeReq` would first prove its unfolding equation, which is slow
  conv => lhs; whnf
  unfold recClasses
  cases env.find c with
  | none => rfl
  | some d =>
    rw [recSubclasses_eq]
    cases collect _ _ <;> rfl

def leafTag : Ty → Option String
  | .path => some tStr
  | T => scalarTag T

theorem recognizeReq_zero (env : Env) (n : Node) (q : Req) : recognizeReq env 0 n q = .error .fuel := by
  cases q <;> rfl

theorem recognizeReq_leaf (env : Env) (k : Nat) (n : Node) {T : Ty} {tag : String} (h : leafTag T = some tag) :
    recognizeReq env (k + 1) n (.ty T) = recScalar n T tag := by
  cases T <;> cases h <;> rfl

theorem recognizeReq_any (env : Env) (k : Nat) (n : Node) : recognizeReq env (k + 1) n (.ty .any) = recOk .any := rfl

theorem recognizeReq_union (env : Env) (k : Nat) (n : Node) (ms : Tys) :
    recognizeReq env (k + 1) n (.ty (.union ms)) =
      recUnion (fun x U => recognizeReq env k x (.ty U)) n ms.toList := rfl

theorem recognizeReq_seq (env : Env) (k : Nat) (n : Node) (kd : SeqKind) (it : Ty) :
    recognizeReq env (k + 1) n (.ty (.seq kd it)) =
      recList (fun x U => recognizeReq env k x (.ty U)) n (.seq kd it) it := rfl

theorem recognizeReq_map (env : Env) (k : Nat) (n : Node) (kd : MapKind) (K V : Ty) :
    recognizeReq env (k + 1) n (.ty (.map kd K V)) =
      recDict env (fun x U => recognizeReq env k x (.ty U)) n (.map kd K V) K V := rfl

theorem recognizeReq_cls (env : Env) (k : Nat) (n : Node) (c : String) :
    recognizeReq env (k + 1) n (.ty (.cls c)) =
      if env.isRegistered c then recognizeReq env k n (.classes c true) else .error .unregistered := rfl

theorem recognize_cls {env : Env} {f : Nat} {n : Node} {c : String} {d : ClassDef} (hd : env.find c = some d) :
    recognize env (f + 1) n (.cls c) = recognizeReq env f n (.classes c true) := by
  rw [recognize, recognizeReq_cls, find_isRegistered env c d hd, if_pos rfl]

/-- A property of the answers of `recognizeReq` (which may depend on the fuel, as a specification stated
with fuel does) holds if every combinator passes it on from the answers of its call-back to its own. -/
theorem recognizeReq_induct {env : Env} {P : Nat → Node → Req → RecRes → Prop}
    (fuel : ∀ n q, P 0 n q (.error .fuel))
    (scalar : ∀ k n T tag, leafTag T = some tag → P (k + 1) n (.ty T) (recScalar n T tag))
    (any : ∀ k n, P (k + 1) n (.ty .any) (recOk .any))
    (union : ∀ k rec n ms, (∀ x U, P k x (.ty U) (rec x U)) →
      P (k + 1) n (.ty (.union ms)) (recUnion rec n ms.toList))
    (seq : ∀ k rec n kd it, (∀ x U, P k x (.ty U) (rec x U)) →
      P (k + 1) n (.ty (.seq kd it)) (recList rec n (.seq kd it) it))
    (map : ∀ k rec n kd K V, (∀ x U, P k x (.ty U) (rec x U)) →
      P (k + 1) n (.ty (.map kd K V)) (recDict env rec n (.map kd K V) K V))
    (cls : ∀ k n c r, P k n (.classes c true) r →
      P (k + 1) n (.ty (.cls c)) (if env.isRegistered c then r else .error .unregistered))
    (classes : ∀ k rec recC n c top, (∀ x U, P k x (.ty U) (rec x U)) →
      (∀ s, P k n (.classes s.name false) (recC s)) → P (k + 1) n (.classes c top) (recClasses env rec recC n c top)) :
    ∀ k n q, P k n q (recognizeReq env k n q) := by
  intro k
  induction k with
  | zero => exact fuel
  | succ k ih =>
    have ihT := fun x U => ih x (.ty U)
    intro n q
    cases q with
    | classes c top =>
      rw [recognizeReq_classes]
      exact classes k _ _ n c top ihT fun s => ih n _
    | ty T =>
      cases T with
      | union ms => exact union k _ n ms ihT
      | seq kd it => exact seq k _ n kd it ihT
      | map kd K V => exact map k _ n kd K V ihT
      | cls c => exact cls k n c _ (ih n _)
      | any => exact any k n
      | _ => exact scalar k n _ _ rfl

end YatimlModel
