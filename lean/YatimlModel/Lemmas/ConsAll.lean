import YatimlModel.Model.Construct
import YatimlModel.Lemmas.CoreTags
import YatimlModel.Lemmas.Values
/-!
What a construction produces, as one predicate: `ConsAll C V E r` says that every user-constructor call
logged in `r` (also when `r` is a failure) satisfies `C`, the value satisfies `V`, the error `E`.
Each combinator and each branch of `construct` has one rule: the result satisfies the predicates if the
pieces do.  What is proved of all constructions (`construct_sound`) and of constructions of particular
trees (core tags only, tagged for a type) are instances.
-/
namespace YatimlModel

def consCalls (r : ConsRes) : List Call :=
  match r with
  | .ok o => o.calls
  | .error (_, cs) => cs

-- a conjunction at the head, so that elaboration against `ConsAll … (construct … n)` for a concrete `n`
-- does not start to evaluate `construct`
def ConsAll (C : Call → Prop) (V : PyVal → Prop) (E : LoadErr → Prop) (r : ConsRes) : Prop :=
  (∀ c ∈ consCalls r, C c) ∧
    match r with
    | .ok o => V o.value
    | .error err => E err.1

/-- the same for a step that threads the call log (`consItems`, `consPairs`) -/
def StepAll {α : Type} (C : Call → Prop) (V : α → Prop) (E : LoadErr → Prop)
    (r : Except (LoadErr × List Call) (α × List Call)) : Prop :=
  (∀ c ∈ (match r with | .ok res => res.2 | .error err => err.2), C c) ∧
    match r with
    | .ok res => V res.1
    | .error err => E err.1

variable {C C' : Call → Prop} {V V' W K : PyVal → Prop} {E E' : LoadErr → Prop}

theorem ConsAll.mono {r : ConsRes} (h : ConsAll C V E r) (hC : ∀ c, C c → C' c) (hV : ∀ v, V v → V' v)
    (hE : ∀ e, E e → E' e) : ConsAll C' V' E' r := by
  cases r with
  | ok o => exact ⟨fun c hc => hC c (h.1 c hc), hV _ h.2⟩
  | error err => exact ⟨fun c hc => hC c (h.1 c hc), hE _ h.2⟩

theorem ConsAll.intro {r : ConsRes} (hC : ∀ c ∈ consCalls r, C c) (hV : ∀ o, r = .ok o → V o.value)
    (hE : ∀ e cs, r = .error (e, cs) → E e) : ConsAll C V E r := by
  cases r with
  | ok o => exact ⟨hC, hV o rfl⟩
  | error err => exact ⟨hC, hE _ _ rfl⟩

theorem ConsAll.value {r : ConsRes} {o : ConsOut} (h : ConsAll C V E r) (hr : r = .ok o) : V o.value := by
  subst hr; exact h.2

theorem ConsAll.error {r : ConsRes} {e : LoadErr} {cs : List Call} (h : ConsAll C V E r)
    (hr : r = .error (e, cs)) : E e := by
  subst hr; exact h.2

theorem StepAll.error {α : Type} {W : α → Prop} {r : Except (LoadErr × List Call) (α × List Call)} {e : LoadErr}
    {cs : List Call} (h : StepAll C W E r) (hr : r = .error (e, cs)) : E e := by
  subst hr; exact h.2

@[core_tags] theorem tMerge_eq : tMerge = coreTag "merge" := by simp [tMerge, coreTag, corePrefix]
@[core_tags] theorem tValue_eq : tValue = coreTag "value" := by simp [tValue, coreTag, corePrefix]

theorem consItems_all (cons : Node → ConsRes) (xs : List Node) (c0 : List Call)
    (h : ∀ x ∈ xs, ConsAll C V E (cons x)) (h0 : ∀ c ∈ c0, C c) :
    StepAll C (fun ys => ∀ y ∈ ys, V y) E (consItems cons xs c0) := by
  induction xs generalizing c0 with
  | nil => exact ⟨h0, List.forall_mem_nil _⟩
  | cons x xs ih =>
    obtain ⟨hx, hxs⟩ := List.forall_mem_cons.mp h
    unfold consItems
    revert hx
    cases cons x with
    | error err => exact fun hx => ⟨List.forall_mem_append.mpr ⟨h0, hx.1⟩, hx.2⟩
    | ok o =>
      intro hx
      have ih := ih (c0 ++ o.calls) hxs (List.forall_mem_append.mpr ⟨h0, hx.1⟩)
      revert ih
      dsimp only
      cases consItems cons xs (c0 ++ o.calls) with
      | error err => exact id
      | ok res => exact fun ih => ⟨ih.1, List.forall_mem_cons.mpr ⟨hx.2, ih.2⟩⟩

theorem dictSet_all {acc : List (PyVal × PyVal)} {k v : PyVal} (ha : ∀ e ∈ acc, K e.1 ∧ V e.2) (hk : K k)
    (hv : V v) : ∀ e ∈ dictSet acc k v, K e.1 ∧ V e.2 := by
  -- one goal per equation of `dictSet`: no entry, the first key is `k`, it is another
  fun_induction dictSet acc k v
  · exact List.forall_mem_singleton.mpr ⟨hk, hv⟩
  all_goals obtain ⟨ha1, har⟩ := List.forall_mem_cons.mp ha
  · exact List.forall_mem_cons.mpr ⟨⟨ha1.1, hv⟩, har⟩
  · rename_i ih
    exact List.forall_mem_cons.mpr ⟨ha1, ih har hk hv⟩

theorem consPairs_all (cons : Node → ConsRes) (hY : E (.yaml "ConstructorError")) (ps : List (Node × Node))
    (acc : List (PyVal × PyVal)) (c0 : List Call)
    (h : ∀ p ∈ ps, ConsAll C K E (cons p.1) ∧ ConsAll C V E (cons p.2)) (ha : ∀ e ∈ acc, K e.1 ∧ V e.2)
    (h0 : ∀ c ∈ c0, C c) : StepAll C (fun kvs => ∀ e ∈ kvs, K e.1 ∧ V e.2) E (consPairs cons ps acc c0) := by
  induction ps generalizing acc c0 with
  | nil => exact ⟨h0, ha⟩
  | cons p ps ih =>
    obtain ⟨⟨hk, hv⟩, hps⟩ := List.forall_mem_cons.mp h
    unfold consPairs
    revert hk
    cases cons p.1 with
    | error err => exact fun hk => ⟨List.forall_mem_append.mpr ⟨h0, hk.1⟩, hk.2⟩
    | ok ko =>
      intro hk
      have h1 := List.forall_mem_append.mpr ⟨h0, hk.1⟩
      dsimp only
      cases hashable ko.value
      · exact ⟨h1, hY⟩
      · revert hv
        cases cons p.2 with
        | error err => exact fun hv => ⟨List.forall_mem_append.mpr ⟨h1, hv.1⟩, hv.2⟩
        | ok vo =>
          exact fun hv => ih _ _ hps (dictSet_all ha hk.2 hv.2) (List.forall_mem_append.mpr ⟨h1, hv.1⟩)

/-- the errors construction raises itself -/
def ConsErr (e : LoadErr) : Prop := (∃ m ks, e = errAt m ks) ∨ e = .yaml "ConstructorError"

theorem ConsErr.errAt (m : Mark) (ks : List String := []) : ConsErr (errAt m ks) := Or.inl ⟨m, ks, rfl⟩
theorem ConsErr.yaml : ConsErr (.yaml "ConstructorError") := Or.inr rfl

section
variable (ext : Ext) (v : String) (m : Mark)
-- with `BEq.rfl`, `simp` searches for `ReflBEq String` each time (slow); equal literals are compared without it
attribute [-simp] BEq.rfl

theorem constructScalarCore_str : constructScalarCore ext tStr v m = .ok (.scalar (.str v)) := by
  simp [constructScalarCore]

theorem constructScalarCore_int : constructScalarCore ext tInt v m =
    match constructInt v with | some i => .ok (.scalar (.int i)) | none => .error (errAt m) := by
  simp [constructScalarCore, core_tags]
  cases constructInt v <;> rfl

theorem constructScalarCore_float : constructScalarCore ext tFloat v m =
    match ext.yamlFloat v with | some r => .ok (.scalar (.float r.1 r.2)) | none => .error (errAt m) := by
  simp [constructScalarCore, core_tags]
  cases ext.yamlFloat v <;> rfl

theorem constructScalarCore_bool : constructScalarCore ext tBool v m =
    match constructBool v with | some b => .ok (.scalar (.bool b)) | none => .error (errAt m) := by
  simp [constructScalarCore, core_tags]
  -- a bare `rfl` would unfold `constructBool`
  cases constructBool v <;> rfl

theorem constructScalarCore_null : constructScalarCore ext tNull v m = .ok (.scalar .none) := by
  simp [constructScalarCore, core_tags]

theorem constructScalarCore_timestamp : constructScalarCore ext tTimestamp v m =
    match ext.yamlTimestamp v with | some r => .ok (.date r) | none => .error (errAt m) := by
  simp [constructScalarCore, core_tags]
  cases ext.yamlTimestamp v <;> rfl

end

theorem checkAttributes_errAt {env : Env} {d : ClassDef} {n : Node} {ps : List (Node × Node)}
    {mapping : List (PyVal × PyVal)} {e : LoadErr} (h : checkAttributes env d n ps mapping = some e) :
    ∃ m ks, e = errAt m ks := by
  revert h
  -- the two ways `checkAttributes` answers `some e`: the test of a parameter (first sweep), of a key (second)
  fun_cases checkAttributes env d n ps mapping <;> intro h
  · rename_i hm
    cases h
    obtain ⟨p, _, hp⟩ := List.exists_of_findSome?_eq_some hm
    repeat' split at hp
    all_goals cases hp
    all_goals exact ⟨_, _, rfl⟩
  · obtain ⟨x, _, hx⟩ := List.exists_of_findSome?_eq_some h
    -- `split` on an `if` tries to decide every `if` below it; on a `match` on the Boolean it does not
    simp only [← cond_eq_ite] at hx
    unfold cond at hx
    repeat' split at hx
    all_goals cases hx
    all_goals exact ⟨_, _, rfl⟩

variable {env : Env} {tbl : List Entry} {fuel : Nat}

theorem construct_enum_all {n : Node} {d : ClassDef} {ms : List String} (hb : env.byTag n.tag = some d)
    (hk : d.kind = .enum ms) (hV : ∀ x, V (.enumMember d.name x)) (hE : ∀ e, ConsErr e → E e) :
    ConsAll C V E (construct env tbl (fuel + 1) n) := by
  unfold construct
  simp only [hb, hk]
  split
  · split
    · exact ⟨List.forall_mem_nil _, hV _⟩
    · exact ⟨List.forall_mem_nil _, hE _ (.errAt _)⟩
  · exact ⟨List.forall_mem_nil _, hE _ (.errAt _)⟩

theorem construct_stringLike_all {n : Node} {d : ClassDef} (hb : env.byTag n.tag = some d)
    (hk : d.kind = .stringLike)
    (hC : ∀ v, d.initRaises [("", .str v)] = false → C ⟨d.name, [(.scalar (.str ""), .scalar (.str v))]⟩)
    (hV : ∀ x, V (.userStr d.name x)) (hE : ∀ e, ConsErr e → E e) :
    ConsAll C V E (construct env tbl (fuel + 1) n) := by
  unfold construct
  simp only [hb, hk]
  split
  · split
    · exact ⟨List.forall_mem_nil _, hE _ (.errAt _)⟩
    · rename_i hr
      exact ⟨List.forall_mem_singleton.mpr (hC _ (by simpa using hr)), hV _⟩
  · exact ⟨List.forall_mem_nil _, hE _ (.errAt _)⟩

/-- the tag stripping of `__strip_extra_attributes`, pair by pair -/
def stripExtra (tbl : List Entry) (d : ClassDef) (p : Node × Node) : Node × Node :=
  match p.1 with
  | .scalar _ k _ => if (d.argNames.filter (· != "_yatiml_extra")).contains k then p else (p.1, stripTags tbl p.2)
  | _ => p

theorem stripExtra_fst (tbl : List Entry) (d : ClassDef) (p : Node × Node) : (stripExtra tbl d p).1 = p.1 := by
  fun_cases stripExtra tbl d p <;> rfl

theorem stripExtra_scalar (tbl : List Entry) (d : ClassDef) (t name : String) (mk : Mark) (x : Node) :
    stripExtra tbl d (.scalar t name mk, x) = (.scalar t name mk,
      if d.argNames.contains name && name != "_yatiml_extra" then x else stripTags tbl x) := by
  have : (d.argNames.filter (· != "_yatiml_extra")).contains name
      = (d.argNames.contains name && name != "_yatiml_extra") := by
    rw [Bool.eq_iff_iff]
    simp only [List.contains_iff_mem, List.mem_filter, Bool.and_eq_true]
  simp only [stripExtra, this, ← apply_ite]

theorem flattenStep_id (flat : List (Node × Node) → Option (List (Node × Node))) (ps : List (Node × Node))
    (h : ∀ p ∈ ps, (p.1.tag == tMerge) = false ∧ (p.1.tag == tValue) = false) :
    flattenStep flat ps = some ([], ps) := by
  induction ps with
  | nil => rfl
  | cons p ps ih =>
    obtain ⟨hp, hps⟩ := List.forall_mem_cons.mp h
    simp [flattenStep, ih hps, hp.1, hp.2]

theorem flattenPairs_id (fuel : Nat) (ps : List (Node × Node))
    (h : ∀ p ∈ ps, (p.1.tag == tMerge) = false ∧ (p.1.tag == tValue) = false) :
    flattenPairs (fuel + 1) ps = some ps := by
  simp [flattenPairs, flattenStep_id _ ps h]

/-- the keys of a class's mapping are `str` scalars (anything else is refused), so nothing is flattened -/
theorem construct_plain_all {n : Node} {d : ClassDef} (hb : env.byTag n.tag = some d) (hk : d.kind = .plain)
    (hq : ∀ t ps m, n = .map t ps m → ∀ p ∈ ps.toList, (∃ kv km, p.1 = .scalar tStr kv km) →
      ConsAll C K E (construct env tbl fuel p.1) ∧
        ConsAll C W E (construct env tbl fuel (stripExtra tbl d p).2))
    (hC : ∀ ps1 mapping, checkAttributes env d n ps1 mapping = none → C ⟨d.name, kwargsOf d mapping⟩)
    (hV : ∀ kw, V (.obj d.name kw)) (hE : ∀ e, ConsErr e → E e) :
    ConsAll C V E (construct env tbl (fuel + 1) n) := by
  unfold construct
  simp only [hb, hk]
  split
  · rename_i t ps m
    -- `split` on this `if` and `simp` on its negated condition are dear
    cases hkeys : ps.toList.all (fun p => p.1.isScalarNode && p.1.tag == tStr)
    · exact ⟨List.forall_mem_nil _, hE _ (.errAt _)⟩
    · rw [Bool.not_true, if_neg Bool.false_ne_true]
      have hkeys' : ∀ p ∈ ps.toList, ∃ kv km, p.1 = .scalar tStr kv km := fun p hp => by
        have := List.all_eq_true.mp hkeys p hp
        generalize p.1 = k at this ⊢
        cases k with
        | scalar t v m => cases eq_of_beq (Bool.and_eq_true_iff.mp this).2; exact ⟨v, m, rfl⟩
        | _ => cases this
      have hflat : flattenPairs (fuel + 1) (ps.toList.map (stripExtra tbl d)) = some _ :=
        flattenPairs_id fuel _ (List.forall_mem_map.mpr fun p hp => by
          obtain ⟨kv, km, hp1⟩ := hkeys' p hp
          rw [stripExtra_fst, hp1]
          simp [Node.tag, core_tags])
      split
      · rename_i hnone
        cases hflat.symm.trans hnone
      · rename_i flat hsome
        cases hflat.symm.trans hsome
        have hs := consPairs_all (construct env tbl fuel) (hE _ .yaml) _ [] []
          (List.forall_mem_map.mpr fun p hp => by
            rw [stripExtra_fst]
            exact hq t ps m rfl p hp (hkeys' p hp))
          (List.forall_mem_nil _) (List.forall_mem_nil _)
        split
        · rename_i herr
          rw [herr] at hs; exact hs
        · rename_i mapping calls hok
          rw [hok] at hs
          split
          · rename_i he
            obtain ⟨m', ks, rfl⟩ := checkAttributes_errAt he
            exact ⟨hs.1, hE _ (.errAt _ _)⟩
          · rename_i hchk
            have hcall := List.forall_mem_append.mpr ⟨hs.1, List.forall_mem_singleton.mpr (hC _ _ hchk)⟩
            cases (dictGet mapping "self").isSome
            · rw [if_neg Bool.false_ne_true]
              split
              · exact ⟨hcall, hE _ (.errAt _)⟩
              · exact ⟨hcall, hV _⟩
            · exact ⟨hs.1, hE _ (.errAt _)⟩
  · exact ⟨List.forall_mem_nil _, hE _ (.errAt _)⟩

theorem construct_path_all {n : Node} (hb : env.byTag "!Path" = none) (ht : n.tag = "!Path")
    (hV : ∀ s, V (.path s)) (hE : ∀ e, ConsErr e → E e) :
    ConsAll C V E (construct env tbl (fuel + 1) n) := by
  unfold construct
  simp only [ht, hb, String.reduceBEq, ↓reduceIte]
  split
  · exact ⟨List.forall_mem_nil _, hV _⟩
  · exact ⟨List.forall_mem_nil _, hE _ (.errAt _)⟩

/-! A node whose tag names no registered class and is not `!Path` is left to PyYAML's own constructors. -/

section
variable {t : String} {m : Mark} (hb : env.byTag t = none) (hp : (t == "!Path") = false)
include hb hp

theorem construct_scalar_eq {v : String} :
    construct env tbl (fuel + 1) (.scalar t v m) =
      match constructScalarCore env.ext t v m with
      | .ok x => .ok ⟨x, []⟩
      | .error e => .error (e, []) := by
  unfold construct
  simp only [Node.tag, hb, hp, Bool.false_eq_true, if_false]
  -- a bare `rfl` would unfold `constructScalarCore`
  cases constructScalarCore env.ext t v m <;> rfl

theorem construct_seq_eq {xs : Nodes} :
    construct env tbl (fuel + 1) (.seq t xs m) =
      if t == tSeq then
        match consItems (construct env tbl fuel) xs.toList [] with
        | .error e => .error e
        | .ok (ys, calls) => .ok ⟨.list (PyVals.ofList ys), calls⟩
      else .error (.yaml "ConstructorError", []) := by
  unfold construct
  simp only [Node.tag, hb, hp, Bool.false_eq_true, if_false]
  rfl

theorem construct_map_eq {ps : Pairs} :
    construct env tbl (fuel + 1) (.map t ps m) =
      if t == tMap then
        match flattenPairs (fuel + 1) ps.toList with
        | none => .error (.yaml "ConstructorError", [])
        | some flat =>
          match consPairs (construct env tbl fuel) flat [] [] with
          | .error e => .error e
          | .ok (kvs, calls) => .ok ⟨.dict (PyKVs.ofList kvs), calls⟩
      else .error (.yaml "ConstructorError", []) := by
  unfold construct
  simp only [Node.tag, hb, hp, Bool.false_eq_true, if_false]
  rfl

theorem construct_scalar_all {v : String} (hs : ∀ s, V (.scalar s)) (hd : ∀ r, V (.date r)) (hy : ∀ r, V (.bytes r))
    (hE : ∀ e, ConsErr e → E e) :
    ConsAll C V E (construct env tbl (fuel + 1) (.scalar t v m)) := by
  rw [construct_scalar_eq hb hp]
  have h1 := hE _ (.errAt m)
  have h2 := hE _ .yaml
  -- per tag: a scalar (`hs`), a date (`hd`), bytes (`hy`); a text that does not parse is `errAt m` (`h1`), bad
  -- base64 or a tag without constructor PyYAML's ConstructorError (`h2`)
  fun_cases constructScalarCore env.ext t v m <;> refine ⟨List.forall_mem_nil _, ?_⟩ <;>
    first | exact hs _ | exact hd _ | exact hy _ | exact h1 | exact h2

theorem construct_seq_all {xs : Nodes} (hx : ∀ x ∈ xs.toList, ConsAll C W E (construct env tbl fuel x))
    (hV : ∀ ys, (∀ y ∈ ys, W y) → V (.list (PyVals.ofList ys))) (hE : ∀ e, ConsErr e → E e) :
    ConsAll C V E (construct env tbl (fuel + 1) (.seq t xs m)) := by
  rw [construct_seq_eq hb hp]
  split
  · have hs := consItems_all _ _ [] hx (List.forall_mem_nil _)
    revert hs
    cases consItems (construct env tbl fuel) xs.toList [] with
    | error e => exact id
    | ok r => exact fun hs => ⟨hs.1, hV _ hs.2⟩
  · exact ⟨List.forall_mem_nil _, hE _ .yaml⟩

theorem construct_map_all {ps : Pairs}
    (hq : ∀ flat, flattenPairs (fuel + 1) ps.toList = some flat →
      ∀ q ∈ flat, ConsAll C K E (construct env tbl fuel q.1) ∧ ConsAll C W E (construct env tbl fuel q.2))
    (hV : ∀ kvs, (∀ e ∈ kvs, K e.1 ∧ W e.2) → V (.dict (PyKVs.ofList kvs))) (hE : ∀ e, ConsErr e → E e) :
    ConsAll C V E (construct env tbl (fuel + 1) (.map t ps m)) := by
  rw [construct_map_eq hb hp]
  split
  · split
    · exact ⟨List.forall_mem_nil _, hE _ .yaml⟩
    · rename_i flat hflat
      have hs := consPairs_all _ (hE _ .yaml) flat [] [] (hq flat hflat) (List.forall_mem_nil _) (List.forall_mem_nil _)
      revert hs
      cases consPairs (construct env tbl fuel) flat [] [] with
      | error e => exact id
      | ok r => exact fun hs => ⟨hs.1, hV _ hs.2⟩
  · exact ⟨List.forall_mem_nil _, hE _ .yaml⟩

end

def CallOk (env : Env) (c : Call) : Prop :=
  (∃ (d : ClassDef) (n : Node) (ps : List (Node × Node)) (mapping : List (PyVal × PyVal)),
      c = ⟨d.name, kwargsOf d mapping⟩ ∧ checkAttributes env d n ps mapping = none) ∨
  (∃ (d : ClassDef) (v : String), c = ⟨d.name, [(.scalar (.str ""), .scalar (.str v))]⟩ ∧
      d.initRaises [("", .str v)] = false)

/-- What holds of every construction, whatever the node (any tags, any nesting), class model and fuel:
every call of a user constructor it makes — whether it succeeds or fails later — passes keyword
arguments that went through `checkAttributes` (all required parameters present, every present parameter
of its declared type, unknown keys only with `_yatiml_extra`), or is the one-argument call of a
string-like class; and if it fails, then by running out of fuel, with a RecognitionError that cites a
position, or with PyYAML's ConstructorError. -/
theorem construct_sound (env : Env) (tbl : List Entry) (fuel : Nat) (n : Node) :
    ConsAll (CallOk env) (fun _ => True) (fun e => e = .fuel ∨ ConsErr e) (construct env tbl fuel n) := by
  induction fuel generalizing n with
  | zero => exact ⟨List.forall_mem_nil _, Or.inl rfl⟩
  | succ fuel ih =>
    cases hb : env.byTag n.tag with
    | some d =>
      cases hk : d.kind with
      | enum ms => exact construct_enum_all hb hk (fun _ => trivial) (fun _ => Or.inr)
      | stringLike =>
        exact construct_stringLike_all hb hk (fun v hv => Or.inr ⟨d, v, rfl, hv⟩) (fun _ => trivial)
          (fun _ => Or.inr)
      | plain =>
        exact construct_plain_all hb hk (fun _ _ _ _ p _ _ => ⟨ih p.1, ih _⟩)
          (fun ps1 mapping h => Or.inl ⟨d, n, ps1, mapping, rfl, h⟩) (fun _ => trivial) (fun _ => Or.inr)
    | none =>
      cases hp : n.tag == "!Path"
      · cases n with
        | scalar t v m =>
          exact construct_scalar_all hb hp (fun _ => trivial) (fun _ => trivial) (fun _ => trivial)
            (fun _ => Or.inr)
        | seq t xs m => exact construct_seq_all hb hp (fun x _ => ih x) (fun _ _ => trivial) (fun _ => Or.inr)
        | map t ps m =>
          exact construct_map_all hb hp (fun _ _ q _ => ⟨ih q.1, ih q.2⟩) (fun _ _ => trivial)
            (fun _ => Or.inr)
      · have ht := eq_of_beq hp
        exact construct_path_all (ht ▸ hb) ht (fun _ => trivial) (fun _ => Or.inr)

end YatimlModel
