import YatimlModel.Model.Regex
/-!
Equality of expressions is lawful (`Re.beq_iff`, with the instances); the three defining equations of
`derivs` / `rmatch` on `c :: s` and `[]`; `Nat.ble` as `decide`, and membership in a one-character class.
-/
namespace YatimlModel
open Re

theorem CSet.beq_iff (a b : CSet) : CSet.beq a b = true ↔ a = b := by
  induction a generalizing b with
  | nil => cases b <;> simp [CSet.beq]
  | cons p xs ih => cases b <;> simp [CSet.beq, ih, Prod.ext_iff]

theorem Re.beq_iff (a b : Re) : Re.beq a b = true ↔ a = b := by
  constructor
  · intro h
    fun_induction Re.beq a b with
    | case7 => cases h
    | _ => simp_all [CSet.beq_iff]
  · rintro rfl
    induction a <;> simp [Re.beq, CSet.beq_iff, *]

instance : LawfulBEq Re where
  eq_of_beq := (Re.beq_iff _ _).mp
  rfl := (Re.beq_iff _ _).mpr rfl

instance : DecidableEq Re := fun a b =>
  decidable_of_iff (Re.beq a b = true) (Re.beq_iff a b)

theorem derivs_cons (r : Re) (c : Nat) (s : List Nat) : derivs r (c :: s) = derivs (deriv c r) s := rfl
theorem rmatch_cons (r : Re) (c : Nat) (s : List Nat) : rmatch r (c :: s) = rmatch (deriv c r) s := rfl
theorem rmatch_nil (r : Re) : rmatch r [] = nullable r := rfl

theorem ble_dec (a b : Nat) : Nat.ble a b = decide (a ≤ b) := by
  rw [Bool.eq_iff_iff, Nat.ble_eq, decide_eq_true_eq]

theorem cset_single (k c : Nat) : CSet.mem [(k, k)] c = (c == k) := by
  rw [Bool.eq_iff_iff]
  simp [CSet.mem, Nat.le_antisymm_iff, and_comm]

end YatimlModel
