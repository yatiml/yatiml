import YatimlModel.Lemmas.RegexBeq
/-!
Denotational semantics of the regular expressions and correctness of the derivative matcher:
`rmatch r s = true ↔ Lang r s`.  With it the C09 statements are about the *language* the YAML 1.2
core-schema expressions denote, not about a matcher.  What is proved on the language and used on the matcher:
a finite language is the list of its words (`lang_words`), a word of a union is a word of one of its members
(`lang_alternatives`) — together `forallMatches`, through which `covers` and `resolvesTo` decide statements
about every string a guard matches — and on strings over an alphabet an expression may be restricted to it
(`rmatch_restrict`).
-/
namespace YatimlModel
open Re

inductive Lang : Re → List Nat → Prop
  | eps : Lang .eps []
  | set {cs : CSet} {c : Nat} : cs.mem c = true → Lang (.set cs) [c]
  | cat {a b : Re} {s t : List Nat} : Lang a s → Lang b t → Lang (.cat a b) (s ++ t)
  | altL {a b : Re} {s : List Nat} : Lang a s → Lang (.alt a b) s
  | altR {a b : Re} {s : List Nat} : Lang b s → Lang (.alt a b) s
  | starNil {a : Re} : Lang (.star a) []
  | starCons {a : Re} {s t : List Nat} : Lang a s → Lang (.star a) t → Lang (.star a) (s ++ t)

theorem lang_empty (s : List Nat) : ¬ Lang .empty s := nofun

theorem lang_eps (s : List Nat) : Lang .eps s ↔ s = [] :=
  ⟨fun h => by cases h; rfl, fun h => h ▸ .eps⟩

theorem lang_set (cs : CSet) (s : List Nat) : Lang (.set cs) s ↔ ∃ c, s = [c] ∧ cs.mem c = true :=
  ⟨fun h => by cases h; exact ⟨_, rfl, ‹_›⟩, by rintro ⟨_, rfl, hc⟩; exact .set hc⟩

theorem lang_alt (a b : Re) (s : List Nat) : Lang (.alt a b) s ↔ Lang a s ∨ Lang b s :=
  ⟨fun h => by cases h <;> simp [*], fun h => h.elim .altL .altR⟩

theorem lang_cat (a b : Re) (u : List Nat) :
    Lang (.cat a b) u ↔ ∃ s t, u = s ++ t ∧ Lang a s ∧ Lang b t :=
  ⟨fun h => by cases h; exact ⟨_, _, rfl, ‹_›, ‹_›⟩, by rintro ⟨_, _, rfl, h1, h2⟩; exact .cat h1 h2⟩

theorem nullable_iff (r : Re) : nullable r = true ↔ Lang r [] := by
  induction r with
  | empty => simp [nullable, lang_empty]
  | eps => simp [nullable, lang_eps]
  | set cs => simp [nullable, lang_set]
  | cat a b iha ihb =>
    simp only [nullable, Bool.and_eq_true, iha, ihb, lang_cat, List.nil_eq_append_iff, and_assoc, exists_and_left,
      exists_eq_left]
  | alt a b iha ihb => simp [nullable, iha, ihb, lang_alt]
  | star a _ => simp [nullable, Lang.starNil]

theorem lang_mkCat (a b : Re) (s : List Nat) : Lang (mkCat a b) s ↔ Lang (.cat a b) s := by
  rw [lang_cat]
  fun_cases mkCat a b
  · simp [lang_empty]
  · simp [lang_empty]
  · exact ⟨fun h => ⟨[], s, rfl, .eps, h⟩, by rintro ⟨_, t, rfl, ⟨⟩, ht⟩; exact ht⟩
  · exact ⟨fun h => ⟨s, [], (List.append_nil s).symm, h, .eps⟩, by rintro ⟨u, _, rfl, hu, ⟨⟩⟩; rwa [List.append_nil]⟩
  · exact lang_cat ..

theorem altMem_lang {x : Re} {s : List Nat} (hx : Lang x s) : ∀ y, altMem x y = true → Lang y s := by
  intro y
  fun_induction altMem x y with
  | case1 a b ih =>
    intro h
    simp only [Bool.or_eq_true, beq_iff_eq] at h
    exact h.elim (fun e => e ▸ .altL hx) (fun h => .altR (ih h))
  | case2 y _ => exact fun h => eq_of_beq h ▸ hx

theorem lang_mkAlt1 (a b : Re) (s : List Nat) : Lang (mkAlt1 a b) s ↔ Lang (.alt a b) s := by
  fun_cases mkAlt1 a b
  · simp [lang_alt, lang_empty]
  · simp [lang_alt, lang_empty]
  · rename_i hm
    simpa [lang_alt] using fun h => altMem_lang h b hm
  · rfl

theorem lang_mkAlt (a b : Re) (s : List Nat) : Lang (mkAlt a b) s ↔ Lang (.alt a b) s := by
  fun_induction mkAlt a b with
  | case1 a1 a2 b ih => simp only [lang_mkAlt1, lang_alt, ih, or_assoc]
  | case2 => exact lang_mkAlt1 _ _ _

theorem lang_star_cons (a : Re) (c : Nat) (s : List Nat) :
    Lang (.star a) (c :: s) ↔ ∃ s1 s2, s = s1 ++ s2 ∧ Lang a (c :: s1) ∧ Lang (.star a) s2 := by
  constructor
  · intro h
    generalize hw : c :: s = w at h
    generalize hr : Re.star a = r at h
    induction h with
    | @starCons _ u t h1 h2 _ ih2 =>
      cases hr
      rcases List.cons_eq_append_iff.mp hw with ⟨rfl, ht⟩ | ⟨u', rfl, rfl⟩
      · exact ih2 ht.symm rfl
      · exact ⟨u', t, rfl, h1, h2⟩
    | starNil => cases hw
    | _ => cases hr
  · rintro ⟨s1, s2, rfl, h1, h2⟩
    exact List.cons_append ▸ Lang.starCons h1 h2

theorem lang_star_set (cs : CSet) (s : List Nat) : Lang (star (Re.set cs)) s ↔ ∀ c ∈ s, cs.mem c = true := by
  induction s with
  | nil => exact ⟨fun _ => List.forall_mem_nil _, fun _ => Lang.starNil⟩
  | cons d t ih =>
    rw [lang_star_cons, List.forall_mem_cons]
    constructor
    · rintro ⟨s1, s2, rfl, ⟨⟩, h2⟩
      exact ⟨‹_›, ih.mp h2⟩
    · exact fun ⟨hd, ht⟩ => ⟨[], t, rfl, Lang.set hd, ih.mpr ht⟩

theorem lang_cat_cons (a b : Re) (c : Nat) (s : List Nat) :
    Lang (.cat a b) (c :: s) ↔
      (∃ s1 s2, s = s1 ++ s2 ∧ Lang a (c :: s1) ∧ Lang b s2) ∨ (Lang a [] ∧ Lang b (c :: s)) := by
  rw [lang_cat]
  constructor
  · rintro ⟨u, t, hut, h1, h2⟩
    rcases List.cons_eq_append_iff.mp hut with ⟨rfl, rfl⟩ | ⟨u', rfl, rfl⟩
    · exact .inr ⟨h1, h2⟩
    · exact .inl ⟨u', t, rfl, h1, h2⟩
  · rintro (⟨u, t, rfl, h1, h2⟩ | ⟨h1, h2⟩)
    · exact ⟨c :: u, t, rfl, h1, h2⟩
    · exact ⟨[], c :: s, rfl, h1, h2⟩

theorem lang_deriv (c : Nat) (r : Re) : ∀ s, Lang (deriv c r) s ↔ Lang r (c :: s) := by
  induction r with
  | empty | eps => simp [deriv, lang_empty, lang_eps]
  | set cs =>
    intro s
    cases h : cs.mem c <;> simp [deriv, lang_eps, lang_empty, lang_set, and_assoc, h]
  | cat a b iha ihb =>
    intro s
    rw [deriv, lang_cat_cons, ← nullable_iff]
    cases nullable a <;> simp only [Bool.false_eq_true, ↓reduceIte, lang_mkAlt, lang_alt, lang_mkCat, lang_cat,
      iha, ihb, false_and, or_false, true_and]
  | alt a b iha ihb => simp [deriv, lang_mkAlt, lang_alt, iha, ihb]
  | star a iha => simp only [deriv, lang_mkCat, lang_cat, lang_star_cons, iha, implies_true]

/-- **The derivative matcher decides the language.** -/
theorem rmatch_iff_lang (r : Re) (s : List Nat) : rmatch r s = true ↔ Lang r s := by
  induction s generalizing r with
  | nil => exact nullable_iff r
  | cons c rest ih => rw [rmatch_cons, ih, lang_deriv]

def Re.words : Re → Option (List (List Nat))
  | .empty => some []
  | .eps => some [[]]
  | .set cs => some (cs.flatMap fun p => (List.range' p.1 (p.2 + 1 - p.1)).map ([·]))
  | .cat a b => do
    let wa ← words a
    let wb ← words b
    pure (wa.flatMap fun u => wb.map (u ++ ·))
  | .alt a b => do
    let wa ← words a
    let wb ← words b
    pure (wa ++ wb)
  | .star _ => none

theorem CSet.range_of_mem {cs : CSet} {c : Nat} (h : cs.mem c = true) :
    ∃ q ∈ cs, c ∈ List.range' q.1 (q.2 + 1 - q.1) := by
  obtain ⟨q, hq, hqc⟩ := List.any_eq_true.mp h
  simp only [Bool.and_eq_true, Nat.ble_eq] at hqc
  refine ⟨q, hq, List.mem_range'_1.mpr ⟨hqc.1, ?_⟩⟩
  rw [Nat.add_sub_of_le (Nat.le_succ_of_le (Nat.le_trans hqc.1 hqc.2))]
  exact Nat.lt_succ_of_le hqc.2

theorem lang_words {r : Re} {s : List Nat} (h : Lang r s) : ∀ {ws}, r.words = some ws → s ∈ ws := by
  induction h with
  | eps => intro _ hw; cases hw; exact List.mem_singleton_self _
  | set hm =>
    intro _ hw
    cases hw
    obtain ⟨q, hq, hc⟩ := CSet.range_of_mem hm
    exact List.mem_flatMap.mpr ⟨q, hq, List.mem_map_of_mem hc⟩
  | cat _ _ iha ihb =>
    intro _ hw
    simp only [words, Option.bind_eq_bind, Option.bind_eq_some_iff, Option.pure_def, Option.some.injEq] at hw
    obtain ⟨wa, ha, wb, hb, rfl⟩ := hw
    exact List.mem_flatMap.mpr ⟨_, iha ha, List.mem_map.mpr ⟨_, ihb hb, rfl⟩⟩
  | altL _ ih | altR _ ih =>
    intro _ hw
    simp only [words, Option.bind_eq_bind, Option.bind_eq_some_iff, Option.pure_def, Option.some.injEq] at hw
    obtain ⟨wa, ha, wb, hb, rfl⟩ := hw
    first | exact List.mem_append_left _ (ih ha) | exact List.mem_append_right _ (ih hb)
  | starNil | starCons => intro _ hw; cases hw

/-- An optional last character that does not occur in `s` takes no part in a match of `s`: Python's
`$` tolerates one final line feed, which a string without line feeds cannot use. -/
theorem rmatch_cat_opt {r : Re} {c : Nat} {s : List Nat} (h : c ∉ s) :
    rmatch (cat r (opt (set [(c, c)]))) s = rmatch r s := by
  rw [Bool.eq_iff_iff, rmatch_iff_lang, rmatch_iff_lang, lang_cat]
  constructor
  · rintro ⟨u, t, rfl, hu, ht⟩
    rcases (lang_alt _ _ _).mp ht with ht | ht
    · rwa [(lang_eps t).mp ht, List.append_nil]
    · cases ht with
      | set hm => rw [cset_single, beq_iff_eq] at hm; simp [hm] at h
  · exact fun hr => ⟨s, [], by simp, hr, Lang.altL Lang.eps⟩

/-! ### restriction to an alphabet

A word of `r` is made of characters of `r`'s classes (`lang_chars`).  So a statement about the strings a
guard matches is a statement about strings over the guard's characters, and for those every other
expression may be restricted to them first (`rmatch_restrict`): alternatives that need another character
disappear, and with them most range boundaries — a check pays for every boundary in every state. -/

def Re.chars : Re → CSet
  | .set cs => cs
  | .cat a b | .alt a b => chars a ++ chars b
  | .star a => chars a
  | _ => []

theorem CSet.mem_append (a b : CSet) (c : Nat) : CSet.mem (a ++ b) c = (a.mem c || b.mem c) := List.any_append

theorem lang_chars {r : Re} {s : List Nat} (h : Lang r s) : ∀ c ∈ s, (chars r).mem c = true := by
  induction h with
  | eps | starNil => exact List.forall_mem_nil _
  | set hm => exact fun _ hc => List.mem_singleton.mp hc ▸ hm
  | cat _ _ iha ihb =>
    simp only [chars, CSet.mem_append, Bool.or_eq_true]
    exact List.forall_mem_append.mpr ⟨fun c hc => .inl (iha c hc), fun c hc => .inr (ihb c hc)⟩
  | altL _ ih => exact fun c hc => by rw [chars, CSet.mem_append, ih c hc, Bool.true_or]
  | altR _ ih => exact fun c hc => by rw [chars, CSet.mem_append, ih c hc, Bool.or_true]
  | starCons _ _ iha ihb => exact List.forall_mem_append.mpr ⟨iha, ihb⟩

theorem CSet.forall_mem {cs : CSet} {p : Nat → Bool}
    (h : cs.all (fun q => (List.range' q.1 (q.2 + 1 - q.1)).all p) = true) {c : Nat} (hc : cs.mem c = true) :
    p c = true := by
  obtain ⟨q, hq, hqc⟩ := CSet.range_of_mem hc
  exact List.all_eq_true.mp (List.all_eq_true.mp h q hq) c hqc

def CSet.inter (a b : CSet) : CSet :=
  a.flatMap fun p => b.filterMap fun q =>
    if Nat.ble (max p.1 q.1) (min p.2 q.2) then some (max p.1 q.1, min p.2 q.2) else none

theorem CSet.mem_inter (a b : CSet) (c : Nat) : (a.inter b).mem c = true ↔ a.mem c = true ∧ b.mem c = true := by
  simp only [CSet.mem, CSet.inter, List.any_eq_true, List.mem_flatMap, List.mem_filterMap, Bool.and_eq_true,
    Nat.ble_eq, Option.ite_none_right_eq_some, Option.some.injEq]
  constructor
  · rintro ⟨_, ⟨p, hp, q, hq, -, rfl⟩, hc⟩
    have lo := Nat.max_le.mp hc.1
    have hi := Nat.le_min.mp hc.2
    exact ⟨⟨p, hp, lo.1, hi.1⟩, q, hq, lo.2, hi.2⟩
  · rintro ⟨⟨p, hp, h1, h2⟩, q, hq, h3, h4⟩
    have lo := Nat.max_le.mpr ⟨h1, h3⟩
    have hi := Nat.le_min.mpr ⟨h2, h4⟩
    exact ⟨_, ⟨p, hp, q, hq, Nat.le_trans lo hi, rfl⟩, lo, hi⟩

def mkSet : CSet → Re
  | [] => .empty
  | cs => .set cs

theorem lang_mkSet (cs : CSet) (s : List Nat) : Lang (mkSet cs) s ↔ Lang (.set cs) s := by
  cases cs with
  | nil => simp [mkSet, lang_empty, lang_set, CSet.mem]
  | cons => rfl

def Re.restrict (A : CSet) : Re → Re
  | .set cs => mkSet (cs.inter A)
  | .cat a b => mkCat (restrict A a) (restrict A b)
  | .alt a b => mkAlt1 (restrict A a) (restrict A b)
  | .star a => .star (restrict A a)
  | r => r

theorem lang_star_mono {P : Nat → Prop} {a b : Re} (hab : ∀ u, (∀ c ∈ u, P c) → Lang a u → Lang b u)
    {s : List Nat} (h : Lang (star a) s) (hs : ∀ c ∈ s, P c) : Lang (star b) s := by
  generalize hr : star a = r at h
  induction h with
  | starNil => exact .starNil
  | starCons h1 _ _ ih =>
    cases hr
    have := List.forall_mem_append.mp hs
    exact .starCons (hab _ this.1 h1) (ih this.2 rfl)
  | _ => cases hr

theorem lang_restrict {A : CSet} (r : Re) {s : List Nat} (hs : ∀ c ∈ s, A.mem c = true) :
    Lang (restrict A r) s ↔ Lang r s := by
  induction r generalizing s with
  | set cs =>
    simp only [restrict, lang_mkSet, lang_set, CSet.mem_inter]
    exact exists_congr fun c => and_congr_right fun e => and_iff_left (hs c (e ▸ List.mem_singleton_self c))
  | cat a b iha ihb =>
    simp only [restrict, lang_mkCat, lang_cat]
    refine exists_congr fun u => exists_congr fun t => and_congr_right fun e => ?_
    have := List.forall_mem_append.mp (e ▸ hs)
    rw [iha this.1, ihb this.2]
  | alt a b iha ihb => simp only [restrict, lang_mkAlt1, lang_alt, iha hs, ihb hs]
  | star a iha =>
    exact ⟨fun h => lang_star_mono (fun u hu => (iha hu).mp) h hs, fun h => lang_star_mono (fun u hu => (iha hu).mpr) h hs⟩
  | _ => rfl

theorem rmatch_restrict {A : CSet} (r : Re) {s : List Nat} (hs : ∀ c ∈ s, A.mem c = true) :
    rmatch (restrict A r) s = rmatch r s := by
  rw [Bool.eq_iff_iff, rmatch_iff_lang, rmatch_iff_lang, lang_restrict r hs]

def Re.alternatives : Re → List Re
  | .alt a b => a.alternatives ++ b.alternatives
  | r => [r]

theorem lang_alternatives {r : Re} {s : List Nat} (h : Lang r s) : ∃ a ∈ r.alternatives, Lang a s := by
  induction r with
  | alt a b iha ihb =>
    rcases (lang_alt a b s).mp h with h | h
    · exact (iha h).imp fun _ h => ⟨List.mem_append_left _ h.1, h.2⟩
    · exact (ihb h).imp fun _ h => ⟨List.mem_append_right _ h.1, h.2⟩
  | _ => exact ⟨_, List.mem_singleton_self _, h⟩

/-- `p` holds of every string `g` matches, decided member by member of `g`: for a member with finitely many
words on those words, for another by `auto` (a check that explores the automaton, within the alphabet of that
member) -/
def forallMatches (g : Re) (p : List Nat → Bool) (auto : Re → Bool) : Bool :=
  g.alternatives.all fun a =>
    match a.words with
    | some ws => ws.all p
    | none => auto a

theorem forallMatches_sound {g : Re} {p : List Nat → Bool} {auto : Re → Bool} (h : forallMatches g p auto = true)
    (hauto : ∀ a, auto a = true → ∀ s, rmatch a s = true → p s = true) {s : List Nat} (hm : rmatch g s = true) :
    p s = true := by
  obtain ⟨a, ha, hl⟩ := lang_alternatives ((rmatch_iff_lang g s).mp hm)
  have h := List.all_eq_true.mp h a ha
  split at h
  · exact List.all_eq_true.mp h s (lang_words hl ‹_›)
  · exact hauto a h s ((rmatch_iff_lang a s).mpr hl)

theorem forall_words {r : Re} {p : List Nat → Bool} (h : forallMatches r p (fun _ => false) = true) {s : List Nat}
    (hm : rmatch r s = true) : p s = true :=
  forallMatches_sound h (fun _ h => nomatch h) hm

end YatimlModel
