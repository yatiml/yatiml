import YatimlModel.Model.Resolver
import YatimlModel.Lemmas.RegexRep
import YatimlModel.Lemmas.RegexLang
/-!
A reflective decision procedure for universally quantified statements about a
*vector* of regular expressions:  `∀ s, good (v.map (rmatch · s))`.

`explore` computes (untrusted) the set of derivative vectors reachable from `v`;
`closed` checks (trusted, evaluated by the kernel) that this set is closed under
derivatives w.r.t. one representative per character class and that `good` holds
of the nullability bits of every vector in it.  `vecCheck_sound` is proved once;
each use is `by decide +kernel` on a regenerated table.  What the kernel pays for is `deriv`: per node
of the expression, for every state and every representative, twice.
-/
namespace YatimlModel
open Re

abbrev Vec := List Re
def stepV (c : Nat) (v : Vec) : Vec := v.map (deriv c)
def nulls (v : Vec) : List Bool := v.map nullable

def boundsOk (bs : List Nat) (v : Vec) : Bool :=
  v.all (fun r => (bounds r).all (fun b => bs.contains b))

def closed (bs : List Nat) (good : List Bool → Bool) (R : List Vec) : Bool :=
  R.all (fun v => good (nulls v) && boundsOk bs v && (0 :: bs).all (fun c => R.contains (stepV c v)))

theorem boundsOk_deriv {bs : List Nat} {v : Vec} (h : boundsOk bs v = true) {r : Re} (hr : r ∈ v)
    (c : Nat) : deriv c r = deriv (rep' bs c) r := by
  apply deriv_rep
  intro b hb
  exact List.contains_iff_mem.mp (List.all_eq_true.mp (List.all_eq_true.mp h r hr) b hb)

theorem stepV_rep {bs : List Nat} (c : Nat) {v : Vec} (h : boundsOk bs v = true) :
    stepV c v = stepV (rep' bs c) v :=
  List.map_congr_left fun _ hr => boundsOk_deriv h hr c

theorem map_rmatch_cons (v : Vec) (c : Nat) (s : List Nat) :
    v.map (fun r => rmatch r (c :: s)) = (stepV c v).map (fun r => rmatch r s) := by
  simp [stepV, rmatch_cons]

theorem closed_sound {bs : List Nat} {good : List Bool → Bool} {R : List Vec}
    (hc : closed bs good R = true) (s : List Nat) :
    ∀ v ∈ R, good (v.map (fun r => rmatch r s)) = true := by
  simp only [closed, List.all_eq_true, Bool.and_eq_true] at hc
  induction s with
  | nil => exact fun v hv => (hc v hv).1.1
  | cons c s ih =>
    intro v hv
    obtain ⟨⟨_, hb⟩, hstep⟩ := hc v hv
    rw [map_rmatch_cons, stepV_rep c hb]
    exact ih _ (by simpa using hstep _ (rep'_mem bs c))

def explore (bs : List Nat) : Nat → List Vec → List Vec → List Vec
  | 0, _, seen => seen
  | _, [], seen => seen
  | fuel+1, v :: todo, seen =>
    if seen.contains v then explore bs fuel todo seen
    else explore bs fuel ((0 :: bs).map (fun c => stepV c v) ++ todo) (v :: seen)

def insertSorted (x : Nat) : List Nat → List Nat
  | [] => [x]
  | y :: ys => if x < y then x :: y :: ys else if x == y then y :: ys else y :: insertSorted x ys
def allBounds (rs : List Re) : List Nat := (rs.flatMap bounds).foldr insertSorted []

def bitsOf (m : Nat) : Nat → List Nat
  | 0 => []
  | fuel + 1 => if m = 0 then [] else m.log2 :: bitsOf (m ^^^ (1 <<< m.log2)) fuel

/-- The distinct elements of `l`.  Collected as the bits of one number because that is what the kernel
evaluates fast (`|||`, `<<<`, `log2` on literals are built in): inserting the ≈ 3000 boundaries of a
resolver table into a sorted list costs it ten times as much as the rest of a check. -/
def distinctNats (l : List Nat) : List Nat :=
  let m := l.foldl (fun m b => m ||| (1 <<< b)) 0
  bitsOf m (m.log2 + 1)

def vecCheck (bs : List Nat) (v : Vec) (good : List Bool → Bool) : Bool :=
  let R := explore bs 1000000 [v] []
  R.contains v && closed bs good R

theorem vecCheck_sound {bs : List Nat} {v : Vec} {good : List Bool → Bool}
    (h : vecCheck bs v good = true) :
    ∀ s, good (v.map (fun r => rmatch r s)) = true := by
  simp only [vecCheck, Bool.and_eq_true] at h
  exact fun s => closed_sound h.2 s v (List.contains_iff_mem.mp h.1)

/-- equivalence of two expressions, by one exploration of the pair -/
def equiv (r spec : Re) : Bool :=
  vecCheck (distinctNats ([r, spec].flatMap bounds)) [r, spec] fun bits =>
    match bits with | [a, b] => a == b | _ => false

theorem equiv_sound {r spec : Re} (h : equiv r spec = true) (s : List Nat) : rmatch r s = rmatch spec s := by
  simpa using vecCheck_sound h s

/-! ### Resolver tables: dispatch on the first character, then a vector check

A problem is a list of resolver tables, a list of specification regexes and a
predicate `good` on (the tag each table resolves `s` to, whether each spec
matches `s`).  The empty string is evaluated directly; for `c :: w` each table is
reduced to the entries whose bucket admits `c`, derived by `c`, and the remaining
statement about `w` is a vector check. -/

def Key.admitsHead : Key → Nat → Bool
  | .wild, _ => true
  | .empty, _ => false
  | .ch k, c => CSet.mem [(k, k)] c

def after (tbl : List Entry) (c : Nat) : List (RTag × Re) :=
  (tbl.filter (fun e => e.key.admitsHead c)).map (fun e => (e.tag, deriv c e.re))

def firstTag : List RTag → List Bool → RTag
  | t :: ts, b :: bs => if b then t else firstTag ts bs
  | _, _ => tagStr

theorem admits_cons (k : Key) (c : Nat) (w : List Nat) : k.admits (c :: w) = k.admitsHead c := by
  cases k with
  | ch k => exact (cset_single k c).symm
  | _ => rfl

theorem matches_cons (e : Entry) (c : Nat) (w : List Nat) :
    e.matches (c :: w) = (e.key.admitsHead c && rmatch (deriv c e.re) w) := by
  simp [Entry.matches, admits_cons, rmatch_cons]

theorem resolve_cons (tbl : List Entry) (c : Nat) (w : List Nat) :
    resolve tbl (c :: w) =
      firstTag ((after tbl c).map (·.1)) ((after tbl c).map (fun p => rmatch p.2 w)) := by
  induction tbl with
  | nil => rfl
  | cons e es ih =>
    simp only [resolve, List.find?_cons, after, List.filter_cons, matches_cons] at *
    cases e.key.admitsHead c
    · exact ih
    · simp only [↓reduceIte, List.map_cons]
      cases rmatch (deriv c e.re) w
      · exact ih
      · rfl

def tagsOf : List (List RTag) → List Bool → List RTag × List Bool
  | [], bits => ([], bits)
  | ts :: rest, bits =>
    let r := tagsOf rest (bits.drop ts.length)
    (firstTag ts bits :: r.1, r.2)

theorem firstTag_append {ts : List RTag} {xs : List Bool} (ys : List Bool) (h : xs.length = ts.length) :
    firstTag ts (xs ++ ys) = firstTag ts xs := by
  induction ts generalizing xs with
  | nil => rfl
  | cons t ts ih =>
    cases xs with
    | nil => cases h
    | cons b bs => rw [List.cons_append, firstTag, firstTag, ih (Nat.succ.inj h)]

structure Prob where
  tbls : List (List Entry)
  specs : List Re
  good : List RTag → List Bool → Bool

def Prob.vecAt (p : Prob) (c : Nat) : Vec :=
  p.tbls.flatMap (fun tbl => (after tbl c).map (·.2)) ++ p.specs.map (deriv c)
def Prob.segsAt (p : Prob) (c : Nat) : List (List RTag) :=
  p.tbls.map (fun tbl => (after tbl c).map (·.1))
def Prob.goodOf (p : Prob) (segs : List (List RTag)) (bits : List Bool) : Bool :=
  let r := tagsOf segs bits
  p.good r.1 r.2

def dedup {α : Type} [BEq α] : List α → List α
  | [] => []
  | x :: xs => if xs.contains x then dedup xs else x :: dedup xs

theorem mem_dedup {α : Type} [BEq α] [LawfulBEq α] {x : α} {l : List α} (h : x ∈ l) : x ∈ dedup l := by
  fun_induction dedup l with
  | case1 => exact h
  | case2 y ys hc ih => exact ih ((List.mem_cons.mp h).elim (fun e => e ▸ List.contains_iff_mem.mp hc) id)
  | case3 y ys hc ih =>
    exact (List.mem_cons.mp h).elim (fun e => e ▸ List.mem_cons_self) fun e => List.mem_cons_of_mem _ (ih e)

theorem tagsOf_spec (tbls : List (List Entry)) (c : Nat) (w : List Nat) (tail : List Bool) :
    tagsOf (tbls.map (fun tbl => (after tbl c).map (·.1)))
      ((tbls.flatMap (fun tbl => (after tbl c).map (·.2))).map (fun r => rmatch r w) ++ tail)
    = (tbls.map (fun tbl => resolve tbl (c :: w)), tail) := by
  induction tbls with
  | nil => rfl
  | cons t ts ih =>
    simp only [List.map_cons, List.flatMap_cons, List.map_append, tagsOf, List.append_assoc]
    rw [firstTag_append _ (by simp only [List.length_map]), List.drop_left' (by simp only [List.length_map]), ih,
      resolve_cons]
    simp only [List.map_map, Function.comp_def]

theorem goodOf_vecAt (p : Prob) (c : Nat) (w : List Nat) :
    p.goodOf (p.segsAt c) ((p.vecAt c).map (fun r => rmatch r w))
      = p.good (p.tbls.map (fun tbl => resolve tbl (c :: w))) (p.specs.map (fun r => rmatch r (c :: w))) := by
  simp only [Prob.goodOf, Prob.vecAt, Prob.segsAt, List.map_append]
  rw [tagsOf_spec]
  simp [List.map_map, Function.comp_def, rmatch_cons]

def Prob.allRes (p : Prob) : List Re := p.tbls.flatMap (fun tbl => tbl.map (·.re)) ++ p.specs
def keyBounds : List Entry → List Nat
  | [] => []
  | e :: es => (match e.key with | .ch k => [k, k + 1] | _ => []) ++ keyBounds es
def Prob.bounds (p : Prob) : List Nat :=
  distinctNats (p.allRes.flatMap Re.bounds ++ p.tbls.flatMap keyBounds)

def keysOk (bs : List Nat) (tbl : List Entry) : Bool :=
  tbl.all (fun e => match e.key with | .ch k => bs.contains k && bs.contains (k + 1) | _ => true)

theorem admitsHead_rep (bs : List Nat) (k : Key) (c : Nat)
    (h : (match k with | .ch k => bs.contains k && bs.contains (k + 1) | _ => true) = true) :
    k.admitsHead c = k.admitsHead (rep' bs c) := by
  cases k with
  | wild => rfl
  | empty => rfl
  | ch k =>
    exact cset_mem_rep c (by simpa only [List.forall_mem_singleton, Bool.and_eq_true, List.contains_iff_mem] using h)

theorem after_rep {bs : List Nat} {tbl : List Entry} (c : Nat)
    (hk : keysOk bs tbl = true) (hb : boundsOk bs (tbl.map (·.re)) = true) :
    after tbl c = after tbl (rep' bs c) := by
  have hp : ∀ e ∈ tbl, e.key.admitsHead c = e.key.admitsHead (rep' bs c) := fun e he =>
    admitsHead_rep bs e.key c (List.all_eq_true.mp hk e he)
  unfold after
  rw [List.filter_congr hp]
  exact List.map_congr_left fun e he => by
    rw [boundsOk_deriv hb (List.mem_map_of_mem (List.mem_filter.mp he).1) c]

/-- What `check` verifies about the boundaries, and what it buys: the statement about `c :: w` is the
one about `rep' bs c :: w`, which the vector check at `rep' bs c` decides. -/
theorem goodOf_vecAt_rep {p : Prob} {bs : List Nat}
    (htb : ∀ tbl ∈ p.tbls, keysOk bs tbl = true ∧ boundsOk bs (tbl.map (·.re)) = true)
    (hsp : boundsOk bs p.specs = true) (c : Nat) (w : List Nat) :
    p.goodOf (p.segsAt (rep' bs c)) ((p.vecAt (rep' bs c)).map (fun r => rmatch r w))
      = p.good (p.tbls.map (fun tbl => resolve tbl (c :: w))) (p.specs.map (fun r => rmatch r (c :: w))) := by
  have e1 : ∀ tbl ∈ p.tbls, resolve tbl (rep' bs c :: w) = resolve tbl (c :: w) := by
    intro tbl ht
    have := htb tbl ht
    rw [resolve_cons, resolve_cons, ← after_rep c this.1 this.2]
  have e2 : ∀ r ∈ p.specs, rmatch r (rep' bs c :: w) = rmatch r (c :: w) := by
    intro r hr
    rw [rmatch_cons, rmatch_cons, boundsOk_deriv hsp hr c]
  rw [goodOf_vecAt, List.map_congr_left e1, List.map_congr_left e2]

/-- `bs` is an untrusted list of boundaries (normally `p.bounds`); the check verifies that
it covers every boundary that matters. -/
def Prob.check (p : Prob) (bs : List Nat) : Bool :=
  p.good (p.tbls.map (fun tbl => resolve tbl [])) (p.specs.map nullable)
  && p.tbls.all (fun tbl => keysOk bs tbl && boundsOk bs (tbl.map (·.re)))
  && boundsOk bs p.specs
  && (dedup ((0 :: bs).map (fun c => (p.segsAt c, p.vecAt c)))).all (fun sv => vecCheck bs sv.2 (p.goodOf sv.1))

theorem Prob.check_sound (p : Prob) (bs : List Nat) (h : p.check bs = true) :
    ∀ s, p.good (p.tbls.map (fun tbl => resolve tbl s)) (p.specs.map (fun r => rmatch r s)) = true := by
  intro s
  simp only [Prob.check, Bool.and_eq_true, List.all_eq_true] at h
  obtain ⟨⟨⟨h0, htb⟩, hsp⟩, hvec⟩ := h
  cases s with
  | nil => exact h0
  | cons c w =>
    have hv := vecCheck_sound (hvec _ (mem_dedup (List.mem_map_of_mem (rep'_mem bs c)))) w
    rwa [goodOf_vecAt_rep htb hsp] at hv

def Prob.ok (p : Prob) : Bool := p.check p.bounds

/-! ### guarded problems: `∀ s, rmatch guard s → good …`

Once the guard regex is dead (its derivative is `∅`) the statement holds for every continuation, so such
states need neither be expanded nor closed under derivatives.  This keeps the explored set down to the
prefixes of the guard language.  The plain check above is this one with a guard that never dies. -/

def isDead : Re → Bool
  | .empty => true
  | _ => false

theorem rmatch_of_isDead {r : Re} (h : isDead r = true) (s : List Nat) : rmatch r s = false := by
  cases r with
  | empty =>
    induction s with
    | nil => rfl
    | cons c s ih => exact ih
  | _ => cases h

def closedG (bs : List Nat) (good : List Bool → Bool) (R : List Vec) : Bool :=
  R.all (fun v =>
    match v with
    | g :: rest =>
      isDead g || (((!nullable g) || good (nulls rest)) && boundsOk bs v
        && (0 :: bs).all (fun c => R.contains (stepV c v)))
    | [] => false)

def exploreG (bs : List Nat) : Nat → List Vec → List Vec → List Vec
  | 0, _, seen => seen
  | _, [], seen => seen
  | fuel+1, v :: todo, seen =>
    if seen.contains v then exploreG bs fuel todo seen
    else
      match v with
      | g :: _ =>
        if isDead g then exploreG bs fuel todo (v :: seen)
        else exploreG bs fuel ((0 :: bs).map (fun c => stepV c v) ++ todo) (v :: seen)
      | [] => exploreG bs fuel todo (v :: seen)

theorem closedG_sound {bs : List Nat} {good : List Bool → Bool} {R : List Vec}
    (hc : closedG bs good R = true) (s : List Nat) :
    ∀ g rest, (g :: rest) ∈ R → rmatch g s = true → good (rest.map (fun r => rmatch r s)) = true := by
  simp only [closedG, List.all_eq_true] at hc
  induction s with
  | nil =>
    intro g rest hv hm
    have := hc _ hv
    simp only [Bool.or_eq_true, Bool.and_eq_true] at this
    rcases this with hd | ⟨⟨hg, _⟩, _⟩
    · rw [rmatch_of_isDead hd] at hm; cases hm
    · rw [rmatch_nil] at hm
      simpa [hm, nulls, rmatch_nil] using hg
  | cons c s ih =>
    intro g rest hv hm
    have := hc _ hv
    simp only [Bool.or_eq_true, Bool.and_eq_true, List.all_eq_true] at this
    rcases this with hd | ⟨⟨_, hb⟩, hstep⟩
    · rw [rmatch_of_isDead hd] at hm; cases hm
    · have hin : stepV c (g :: rest) ∈ R := by
        rw [stepV_rep c hb]; simpa using hstep _ (rep'_mem bs c)
      rw [map_rmatch_cons]
      exact ih _ _ hin hm

def vecCheckG (bs : List Nat) (g : Re) (v : Vec) (good : List Bool → Bool) : Bool :=
  let R := exploreG bs 1000000 [g :: v] []
  R.contains (g :: v) && closedG bs good R

theorem vecCheckG_sound {bs : List Nat} {g : Re} {v : Vec} {good : List Bool → Bool}
    (h : vecCheckG bs g v good = true) :
    ∀ s, rmatch g s = true → good (v.map (fun r => rmatch r s)) = true := by
  simp only [vecCheckG, Bool.and_eq_true] at h
  exact fun s => closedG_sound h.2 s g v (List.contains_iff_mem.mp h.1)

def Re.alphabet (g : Re) : CSet := dedup g.chars

theorem rmatch_alphabet {g : Re} {s : List Nat} (h : rmatch g s = true) : ∀ c ∈ s, g.alphabet.mem c = true := by
  intro c hc
  obtain ⟨p, hp, hpc⟩ := List.any_eq_true.mp (lang_chars ((rmatch_iff_lang g s).mp h) c hc)
  exact List.any_eq_true.mpr ⟨p, mem_dedup hp, hpc⟩

/-- No table, so no dispatch on the first character; the automaton is explored with `v` restricted to the
characters of the member of `g` concerned. -/
def covers (g : Re) (v : Vec) : Bool :=
  forallMatches g (fun w => v.any (rmatch · w)) fun a =>
    let v' := v.map (restrict a.alphabet)
    vecCheckG (distinctNats ((a :: v').flatMap bounds)) a v' (·.any id)

theorem covers_sound (g : Re) (v : Vec) (h : covers g v = true) (s : List Nat) (hm : rmatch g s = true) :
    ∃ r ∈ v, rmatch r s = true := by
  refine List.any_eq_true.mp (forallMatches_sound h (fun a ha s hm => ?_) hm)
  simpa [rmatch_restrict _ (rmatch_alphabet hm)] using vecCheckG_sound ha s hm

structure GProb where
  guard : Re
  base : Prob

def GProb.bounds (p : GProb) : List Nat :=
  distinctNats ((p.guard :: p.base.allRes).flatMap Re.bounds ++ p.base.tbls.flatMap keyBounds)

def GProb.check (p : GProb) (bs : List Nat) : Bool :=
  ((!nullable p.guard) || p.base.good (p.base.tbls.map (fun tbl => resolve tbl [])) (p.base.specs.map nullable))
  && p.base.tbls.all (fun tbl => keysOk bs tbl && boundsOk bs (tbl.map (·.re)))
  && boundsOk bs (p.guard :: p.base.specs)
  && (dedup ((0 :: bs).map (fun c => (p.base.segsAt c, deriv c p.guard, p.base.vecAt c)))).all
      (fun sv => vecCheckG bs sv.2.1 sv.2.2 (p.base.goodOf sv.1))

theorem GProb.check_sound (p : GProb) (bs : List Nat) (h : p.check bs = true) :
    ∀ s, rmatch p.guard s = true →
      p.base.good (p.base.tbls.map (fun tbl => resolve tbl s)) (p.base.specs.map (fun r => rmatch r s)) = true := by
  intro s hm
  simp only [GProb.check, Bool.and_eq_true, List.all_eq_true] at h
  obtain ⟨⟨⟨h0, htb⟩, hsp⟩, hvec⟩ := h
  cases s with
  | nil =>
    rw [rmatch_nil] at hm
    rwa [hm] at h0
  | cons c w =>
    have hsp' : boundsOk bs p.base.specs = true := (Bool.and_eq_true_iff.mp hsp).2
    rw [rmatch_cons, boundsOk_deriv hsp List.mem_cons_self c] at hm
    have hv := vecCheckG_sound (hvec _ (mem_dedup (List.mem_map_of_mem (rep'_mem bs c)))) w hm
    rwa [goodOf_vecAt_rep htb hsp'] at hv

def GProb.ok (p : GProb) : Bool := p.check p.bounds

end YatimlModel
