import YatimlModel.Lemmas.Conforms
/-!
Which user constructors a load can run: only those of classes *reachable* from the declared type —
the classes the type names, registered classes derived from them, and, recursively, the classes
reachable from the parameter types of those classes.  Nothing a document contains (tags, extra keys,
nesting below `Any` or `_yatiml_extra`) can make any other constructor run.
-/
namespace YatimlModel
open NodeOps

inductive Reach (env : Env) : Ty → String → Prop
  | cls {c d : String} : Descends env c d → env.isRegistered d = true → Reach env (.cls c) d
  | attr {c d : String} {dd : ClassDef} {p : Param} {e : String} :
      Descends env c d → env.find d = some dd → p ∈ dd.params → Reach env p.ty e → Reach env (.cls c) e
  | item {k : SeqKind} {i : Ty} {e : String} : Reach env i e → Reach env (.seq k i) e
  | key {k : MapKind} {a b : Ty} {e : String} : Reach env a e → Reach env (.map k a b) e
  | val {k : MapKind} {a b : Ty} {e : String} : Reach env b e → Reach env (.map k a b) e
  | mem {ms : Tys} {m : Ty} {e : String} : m ∈ ms.toList → Reach env m e → Reach env (.union ms) e

theorem descends_trans {env : Env} {a b c : String} (h1 : Descends env a b) (h2 : Descends env b c) :
    Descends env a c := by
  induction h1 with
  | refl _ => exact h2
  | step d hd _ ih => exact Descends.step d hd (ih h2)

theorem admits_reach {env : Env} {T R : Ty} {e : String} (h : Admits env T R) (he : Reach env R e) :
    Reach env T e := by
  induction h with
  | self T _ _ => exact he
  | unionMem hm _ ih => exact .mem hm (ih he)
  | cls hd _ =>
    cases he with
    | cls hd' hreg => exact .cls (descends_trans hd hd') hreg
    | attr hd' hf hp hr => exact .attr (descends_trans hd hd') hf hp hr
  | seqItem _ ih =>
    cases he with
    | item h => exact .item (ih h)
  | mapKey _ ih =>
    cases he with
    | key h => exact .key (ih h)
    | val h => exact .val h
  | mapVal _ ih =>
    cases he with
    | key h => exact .key h
    | val h => exact .val (ih h)

/-- the names `__init__` accepts (apart from `_yatiml_extra`) are its parameters -/
def ArgsAreParams (env : Env) : Prop :=
  ∀ c d, env.find c = some d → ∀ k, d.argNames.contains k = true → k ≠ "_yatiml_extra" →
    ∃ p ∈ d.params, p.name = k

/-- **Only reachable constructors run.** -/
theorem construct_calls_reach (env : Env) (tbl : List Entry) (htbl : TableCore tbl) (hwf : EnvWF env)
    (hargs : ArgsAreParams env)
    (hparamsOk : ∀ c d, env.find c = some d → ∀ p ∈ d.params, DictKeysOk p.ty) :
    ∀ (fuel : Nat) (n : Node) (T : Ty), Tagged env T n → DictKeysOk T →
      ∀ c ∈ consCalls (construct env tbl fuel n), Reach env T c.cls := by
  refine fun fuel n T htag hT => (construct_tagged_all env tbl hwf (C := fun T c => Reach env T c.cls)
    (fun _ _ _ => admits_reach) (fun _ _ _ => .item) (fun _ _ _ _ => .key)
    (fun _ _ _ _ => .val) (fun _ _ hreg => .cls (.refl _) hreg) ?_ fuel n T htag hT).1
  intro fuel c dd n hfd hk ih hattrs p hp ⟨kv, km, hp1⟩
  rw [show p = (p.1, p.2) from rfl, hp1, stripExtra_scalar]
  split
  · -- a parameter: the value was processed against the parameter's type
    rename_i hknown
    obtain ⟨h1, h2⟩ := Bool.and_eq_true_iff.mp hknown
    obtain ⟨prm, hprm, hpn⟩ := hargs c dd hfd kv h1 (bne_iff_ne.mp h2)
    have hv : p.2 ∈ valuesOf n.pairs prm.name :=
      List.mem_map_of_mem (List.mem_filter.mpr ⟨hp, by simp only [hp1, hpn, Node.keyIs, beq_iff_eq]⟩)
    exact (ih p.2 prm.ty (hattrs prm hprm p.2 hv) (hparamsOk c dd hfd prm hprm)).mono
      (fun _ => .attr (.refl _) hfd hprm) (fun _ _ => trivial) (fun _ => id)
  · -- not a parameter: stripped to plain data
    exact construct_core_all (stripTags_allCore tbl htbl p.2)

end YatimlModel
