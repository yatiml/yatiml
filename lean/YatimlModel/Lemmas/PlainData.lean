import YatimlModel.Lemmas.ConsAll
import YatimlModel.Lemmas.Env
/-!
A tree whose every tag is a core-schema tag (`tag:yaml.org,2002:…`) — which is
what `strip_tags` produces — constructs to plain data (dicts, lists, built-in
scalars) without a single user-constructor call, or fails; whatever the tree
looks like otherwise (merge keys, odd keys, wrong kinds, `!!python/…` tags).
-/
namespace YatimlModel

mutual
def AllCore : Node → Prop
  | .scalar t _ _ => hasPrefix corePrefix t = true
  | .seq t xs _ => hasPrefix corePrefix t = true ∧ AllCoreL xs
  | .map t ps _ => hasPrefix corePrefix t = true ∧ AllCoreP ps
def AllCoreL : Nodes → Prop
  | .nil => True
  | .cons x xs => AllCore x ∧ AllCoreL xs
def AllCoreP : Pairs → Prop
  | .nil => True
  | .cons k v r => AllCore k ∧ AllCore v ∧ AllCoreP r
end

mutual
def Plain : PyVal → Prop
  | .scalar _ => True
  | .date _ => True
  | .bytes _ => True
  | .list xs => PlainL xs
  | .dict kvs => PlainK kvs
  | .obj _ _ => False
  | .enumMember _ _ => False
  | .userStr _ _ => False
  | .path _ => False
def PlainL : PyVals → Prop
  | .nil => True
  | .cons x xs => Plain x ∧ PlainL xs
def PlainK : PyKVs → Prop
  | .nil => True
  | .cons k v r => Plain k ∧ Plain v ∧ PlainK r
end

/-- the resolver table only yields core tags (a `decide`-able fact of the regenerated table) -/
def TableCore (tbl : List Entry) : Prop := ∀ e ∈ tbl, hasPrefix corePrefix e.tag.toString = true

mutual
theorem stripTags_allCore (tbl : List Entry) (h : TableCore tbl) (n : Node) : AllCore (stripTags tbl n) := by
  -- `cases`, not equations: elaborating a `match` arm evaluates `hasPrefix corePrefix t` in the expected type
  cases n with
  | scalar t v m =>
    unfold stripTags
    cases ht : hasPrefix corePrefix t
    · rw [if_neg Bool.false_ne_true]
      unfold AllCore resolveStr resolve
      split
      · exact h _ (List.mem_of_find?_eq_some ‹_›)
      · show hasPrefix corePrefix tStr = true
        simp only [core_tags]
    · exact ht
  | seq t xs m => exact ⟨by simp only [core_tags], stripTagsL_allCore tbl h xs⟩
  | map t ps m => exact ⟨by simp only [core_tags], stripTagsP_allCore tbl h ps⟩
theorem stripTagsL_allCore (tbl : List Entry) (h : TableCore tbl) : ∀ xs, AllCoreL (stripTagsL tbl xs)
  | .nil => trivial
  | .cons x xs => ⟨stripTags_allCore tbl h x, stripTagsL_allCore tbl h xs⟩
theorem stripTagsP_allCore (tbl : List Entry) (h : TableCore tbl) : ∀ ps, AllCoreP (stripTagsP tbl ps)
  | .nil => trivial
  | .cons k v r => ⟨stripTags_allCore tbl h k, stripTags_allCore tbl h v, stripTagsP_allCore tbl h r⟩
end

theorem allCoreL_iff : ∀ (xs : Nodes), AllCoreL xs ↔ ∀ x ∈ xs.toList, AllCore x := by
  intro xs
  -- induction along `toList`: `Nodes` is a mutual inductive, and recursion by equations is dearer
  fun_induction Nodes.toList xs with
  | case1 => simp [AllCoreL]
  | case2 x xs ih => rw [AllCoreL, List.forall_mem_cons, ih]

theorem allCoreP_iff : ∀ (ps : Pairs), AllCoreP ps ↔ ∀ p ∈ ps.toList, AllCore p.1 ∧ AllCore p.2 := by
  intro ps
  fun_induction Pairs.toList ps with
  | case1 => simp [AllCoreP]
  | case2 k v r ih => rw [AllCoreP, List.forall_mem_cons, ih, and_assoc]

theorem node_tag_core (n : Node) (h : AllCore n) : hasPrefix corePrefix n.tag = true := by
  cases n with
  | scalar t v m => exact h
  | seq t xs m => exact h.1
  | map t ps m => exact h.1

theorem plainL_ofList (l : List PyVal) (h : ∀ x ∈ l, Plain x) : PlainL (PyVals.ofList l) := by
  induction l with
  | nil => trivial
  | cons x xs ih =>
    rw [List.forall_mem_cons] at h
    exact ⟨h.1, ih h.2⟩

theorem plainK_ofList (l : List (PyVal × PyVal)) (h : ∀ e ∈ l, Plain e.1 ∧ Plain e.2) :
    PlainK (PyKVs.ofList l) := by
  induction l with
  | nil => trivial
  | cons e r ih =>
    rw [List.forall_mem_cons] at h
    exact ⟨h.1.1, h.1.2, ih h.2⟩

theorem tag_not_merge {t : String} (h : t = tStr ∨ ∃ d, t = "!" ++ d) :
    (t == tMerge) = false ∧ (t == tValue) = false := by
  rcases h with rfl | ⟨d, rfl⟩
  · simp [core_tags]
  · have hne : ∀ u, hasPrefix corePrefix u = true → ("!" ++ d == u) = false := fun u hu => by
      rw [beq_eq_false_iff_ne]
      rintro rfl
      have := hasPrefix_core_not_bang _ hu
      rw [hasPrefix_append] at this
      cases this
    exact ⟨hne _ (by simp only [core_tags]), hne _ (by simp only [core_tags])⟩

theorem construct_scalar_core (env : Env) (tbl : List Entry) (fuel : Nat) {t : String} (v : String) (m : Mark)
    (ht : hasPrefix corePrefix t = true) :
    construct env tbl (fuel + 1) (.scalar t v m) =
      match constructScalarCore env.ext t v m with
      | .ok x => .ok ⟨x, []⟩
      | .error e => .error (e, []) :=
  -- the two `match`es are different matchers: `rfl` between them would unfold `constructScalarCore`
  (construct_scalar_eq (byTag_core env t ht) (core_ne_path t ht)).trans
    (by cases constructScalarCore env.ext t v m <;> rfl)

def CorePair (p : Node × Node) : Prop := AllCore p.1 ∧ AllCore p.2

theorem allCore_setTag (n : Node) (t : String) (ht : hasPrefix corePrefix t = true) (h : AllCore n) :
    AllCore (n.setTag t) := by
  cases n with
  | scalar => exact ht
  | _ => exact ⟨ht, h.2⟩

section
variable (flat : List (Node × Node) → Option (List (Node × Node)))
  (hf : ∀ ps f, (∀ p ∈ ps, CorePair p) → flat ps = some f → ∀ p ∈ f, CorePair p)
include hf

theorem mergeSeqItems_core (xs : List Node) (l : List (List (Node × Node))) (hx : ∀ x ∈ xs, AllCore x)
    (h : mergeSeqItems flat xs = some l) : ∀ f ∈ l, ∀ p ∈ f, CorePair p := by
  -- the ways `mergeSeqItems` answers `some l`, in its order
  fun_induction mergeSeqItems flat xs generalizing l <;> cases h
  · exact List.forall_mem_nil _
  · rename_i qs _ f r hr hfl ih
    obtain ⟨hx1, hxs⟩ := List.forall_mem_cons.mp hx
    exact List.forall_mem_cons.mpr ⟨hf qs.toList f ((allCoreP_iff qs).mp hx1.2) hfl, ih r hxs hr⟩

theorem mergedOf_core (v : Node) (hv : AllCore v) (f : List (Node × Node)) (h : mergedOf flat v = some f) :
    ∀ p ∈ f, CorePair p := by
  cases v with
  | scalar t s m => cases h
  | map t qs m => exact hf qs.toList f ((allCoreP_iff qs).mp hv.2) h
  | seq t xs m =>
    obtain ⟨l, hl, rfl⟩ := Option.map_eq_some_iff.mp h
    intro p hp
    obtain ⟨g, hg, hpg⟩ := List.mem_flatten.mp hp
    exact mergeSeqItems_core flat hf xs.toList l ((allCoreL_iff xs).mp hv.2) hl g (List.mem_reverse.mp hg) p hpg

theorem flattenStep_core (ps : List (Node × Node)) (r : List (Node × Node) × List (Node × Node))
    (hps : ∀ p ∈ ps, CorePair p) (h : flattenStep flat ps = some r) :
    (∀ p ∈ r.1, CorePair p) ∧ (∀ p ∈ r.2, CorePair p) := by
  -- the ways `flattenStep` answers `some r`, in its order: no pair, a merge key, a `=` key, any other key
  fun_induction flattenStep flat ps generalizing r <;> cases h
  · exact ⟨List.forall_mem_nil _, List.forall_mem_nil _⟩
  all_goals obtain ⟨hp, hrest⟩ := List.forall_mem_cons.mp hps
  · rename_i p ps merge rest hrec _ f hm ih
    obtain ⟨h1, h2⟩ := ih (merge, rest) hrest hrec
    exact ⟨List.forall_mem_append.mpr ⟨mergedOf_core flat hf p.2 hp.2 f hm, h1⟩, h2⟩
  · rename_i merge rest hrec _ _ ih
    obtain ⟨h1, h2⟩ := ih (merge, rest) hrest hrec
    exact ⟨h1, List.forall_mem_cons.mpr ⟨⟨allCore_setTag _ _ (by simp only [core_tags]) hp.1, hp.2⟩, h2⟩⟩
  · rename_i merge rest hrec _ _ ih
    obtain ⟨h1, h2⟩ := ih (merge, rest) hrest hrec
    exact ⟨h1, List.forall_mem_cons.mpr ⟨hp, h2⟩⟩

end

theorem flattenPairs_core (fuel : Nat) (ps f : List (Node × Node)) (hps : ∀ p ∈ ps, CorePair p)
    (h : flattenPairs fuel ps = some f) : ∀ p ∈ f, CorePair p := by
  induction fuel generalizing ps f with
  | zero => cases h
  | succ fuel ih =>
    obtain ⟨r, hr, rfl⟩ := Option.map_eq_some_iff.mp h
    exact List.forall_mem_append.mpr (flattenStep_core (flattenPairs fuel) ih ps r hps hr)

def QuietPlain (r : ConsRes) : Prop :=
  match r with
  | .ok o => o.calls = [] ∧ Plain o.value
  | .error (_, cs) => cs = []

theorem quietPlain_iff (r : ConsRes) : QuietPlain r ↔ ConsAll (fun _ => False) Plain (fun _ => True) r := by
  cases r <;> simp only [QuietPlain, ConsAll, consCalls, List.eq_nil_iff_forall_not_mem, and_true]

theorem construct_quiet_all (env : Env) (tbl : List Entry) (fuel : Nat) (n : Node) (hn : AllCore n) :
    ConsAll (fun _ => False) Plain (fun _ => True) (construct env tbl fuel n) := by
  induction fuel generalizing n with
  | zero => exact ⟨List.forall_mem_nil _, trivial⟩
  | succ fuel ih =>
    cases n with
    | scalar t _ _ =>
      exact construct_scalar_all (byTag_core env t hn) (core_ne_path t hn) (fun _ => trivial) (fun _ => trivial)
        (fun _ => trivial) (fun _ _ => trivial)
    | seq t xs _ =>
      exact construct_seq_all (byTag_core env t hn.1) (core_ne_path t hn.1)
        (fun x hx => ih x ((allCoreL_iff xs).mp hn.2 x hx)) plainL_ofList (fun _ _ => trivial)
    | map t ps _ =>
      refine construct_map_all (byTag_core env t hn.1) (core_ne_path t hn.1) (fun flat hflat q hq => ?_)
        plainK_ofList (fun _ _ => trivial)
      have hc := flattenPairs_core (fuel + 1) ps.toList flat ((allCoreP_iff ps).mp hn.2) hflat q hq
      exact ⟨ih q.1 hc.1, ih q.2 hc.2⟩

theorem construct_core_all {C : Call → Prop} {env : Env} {tbl : List Entry} {fuel : Nat} {n : Node} (hn : AllCore n) :
    ConsAll C (fun _ => True) (fun _ => True) (construct env tbl fuel n) :=
  (construct_quiet_all env tbl fuel n hn).mono (fun _ => False.elim) (fun _ _ => trivial) (fun _ => id)

/-- **Plain data, no constructor calls.**  A tree with core tags only constructs to plain data
without calling any user constructor (also when it fails half-way). -/
theorem construct_quiet (env : Env) (tbl : List Entry) :
    ∀ (fuel : Nat) (n : Node), AllCore n → QuietPlain (construct env tbl fuel n) :=
  fun fuel n hn => (quietPlain_iff _).mpr (construct_quiet_all env tbl fuel n hn)

theorem typeToTag_scalar (env : Env) (R : Ty) (t : String) (h : scalarTag R = some t) : typeToTag env R = some t := by
  cases R <;> first | exact h | cases h

end YatimlModel
