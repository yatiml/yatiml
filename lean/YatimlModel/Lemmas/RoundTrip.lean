import YatimlModel.Lemmas.ProcAll
import YatimlModel.Lemmas.PlainData
import YatimlModel.Lemmas.AttrOps
import YatimlModel.Lemmas.RecSound
import YatimlModel.Lemmas.All2
import YatimlModel.Model.Load
/-!
Node-level round trip (C05): a node tree that *faithfully describes* a value `v` for a declared type `T`
loads to exactly `v`.

`RT env tbl fuel T v n` ("n is a faithful description of v for T") is defined by recursion on the fuel
the loader has at that node.  It says, at every node of the tree, that recognition against the declared
type singles out exactly one type `R` (the *unambiguity* of the class model for this value — a hypothesis,
checked per node by the recogniser itself), and that the node has the shape the representers give a value
of that kind (`RTcore`).  Then recognition, savorizing, attribute processing, tag stripping, PyYAML's
mapping construction, the attribute checks and the constructor call compose to the identity (`RT_load`).
The text layer (emitter / scanner) is outside the statement: see DESIGN.md.
-/
namespace YatimlModel
open NodeOps

/-- the dict key of a keyword argument -/
def strKey (s : String) : PyVal := .scalar (.str s)

/-- dict keys as PyYAML builds them -/
def KeysOk (l : List (PyVal × PyVal)) : Prop :=
  (∀ e ∈ l, hashable e.1 = true) ∧ l.Pairwise (fun a b => keyEq a.1 b.1 = false)

/-- the description of the attributes of a user object of class `d`:
`mainKw` / `mainPs` the constructor parameters given (keyword arguments and mapping pairs, same order),
`extraKw` / `extraPs` the extra attributes -/
structure ObjOK (env : Env) (tbl : List Entry) (fuel : Nat) (rt : Ty → PyVal → Node → Prop)
    (d : ClassDef) (n : Node) (kw : List (PyVal × PyVal)) (ps : List (Node × Node))
    (mainKw extraKw : List (PyVal × PyVal)) (mainPs extraPs : List (Node × Node)) : Prop where
  /-- the class's savorize hooks (its registered bases' first) leave this node as it is -/
  sav : savorize env (fuel + 1) n d = .ok (n, [])
  psEq : ps = mainPs ++ extraPs
  kwEq : kw = mainKw ++ (if d.takesExtra then [(strKey "_yatiml_extra", .dict (PyKVs.ofList extraKw))] else [])
  noExtra : d.takesExtra = false → extraKw = []
  main : All2 (fun e p => ∃ name mk prm, e.1 = strKey name ∧ p.1 = .scalar tStr name mk ∧ prm ∈ d.params ∧
            prm.name = name ∧ rt prm.ty e.2 p.2 ∧ typeMatches env e.2 prm.ty = true) mainKw mainPs
  extra : All2 (fun e p => ∃ name mk cs, e.1 = strKey name ∧ p.1 = .scalar tStr name mk ∧
            d.argNames.contains name = false ∧ name ≠ "self" ∧
            construct env tbl fuel (stripTags tbl p.2) = .ok ⟨e.2, cs⟩) extraKw extraPs
  distinct : (ps.map (fun p => p.1)).Pairwise (fun a b => ∀ s, a.keyIs s = true → b.keyIs s = false)
  required : ∀ prm ∈ d.params, prm.required = true → ∃ e ∈ mainKw, e.1 = strKey prm.name
  paramsNodup : (d.params.map (·.name)).Nodup
  argsParams : ∀ prm ∈ d.params, d.argNames.contains prm.name = true ∧ prm.name ≠ "_yatiml_extra" ∧ prm.name ≠ "self"
  init : d.initRaises (scalarArgs kw) = false

/-- the shape of a node that describes `v`, once recognition has settled on the type `R` -/
inductive RTcore (env : Env) (tbl : List Entry) (fuel : Nat) (rt : Ty → PyVal → Node → Prop) :
    Ty → PyVal → Node → Prop
  | str (s : String) (m : Mark) : RTcore env tbl fuel rt .str (.scalar (.str s)) (.scalar tStr s m)
  | int (i : Int) (s : String) (m : Mark) : constructInt s = some i →
      RTcore env tbl fuel rt .int (.scalar (.int i)) (.scalar tInt s m)
  | float (r : String) (i : Option Int) (s : String) (m : Mark) : env.ext.yamlFloat s = some (r, i) →
      RTcore env tbl fuel rt .float (.scalar (.float r i)) (.scalar tFloat s m)
  | bool (b : Bool) (s : String) (m : Mark) : constructBool s = some b →
      RTcore env tbl fuel rt .bool (.scalar (.bool b)) (.scalar tBool s m)
  | boolFix (b : Bool) (s : String) (m : Mark) : constructBool s = some b →
      RTcore env tbl fuel rt .boolFix (.scalar (.bool b)) (.scalar tBool s m)
  | null (s : String) (m : Mark) : RTcore env tbl fuel rt .null (.scalar .none) (.scalar tNull s m)
  | date (r s : String) (m : Mark) : env.ext.yamlTimestamp s = some r →
      RTcore env tbl fuel rt .date (.date r) (.scalar tTimestamp s m)
  | path (s : String) (m : Mark) : env.find "Path" = none →
      RTcore env tbl fuel rt .path (.path s) (.scalar tStr s m)
  | seq (k : SeqKind) (item : Ty) (xs : PyVals) (ns : Nodes) (m : Mark) :
      All2 (rt item) xs.toList ns.toList →
      RTcore env tbl fuel rt (.seq k item) (.list xs) (.seq tSeq ns m)
  | map (k : MapKind) (K V : Ty) (kvs : PyKVs) (ps : Pairs) (m : Mark) :
      All2 (fun e p => rt K e.1 p.1 ∧ rt V e.2 p.2) kvs.toList ps.toList →
      KeysOk kvs.toList → keyTypeOk env K = true →
      RTcore env tbl fuel rt (.map k K V) (.dict kvs) (.map tMap ps m)
  | enum (c name : String) (m : Mark) (d : ClassDef) (members : List String) :
      env.find c = some d → d.kind = .enum members → members.contains name = true →
      savorize env (fuel + 1) (.scalar tStr name m) d = .ok (.scalar tStr name m, []) →
      RTcore env tbl fuel rt (.cls c) (.enumMember c name) (.scalar tStr name m)
  | userStr (c s : String) (m : Mark) (d : ClassDef) :
      env.find c = some d → d.kind = .stringLike → d.initRaises [("", .str s)] = false →
      savorize env (fuel + 1) (.scalar tStr s m) d = .ok (.scalar tStr s m, []) →
      RTcore env tbl fuel rt (.cls c) (.userStr c s) (.scalar tStr s m)
  | obj (c : String) (kw : PyKVs) (ps : Pairs) (m : Mark) (d : ClassDef)
      (mainKw extraKw : List (PyVal × PyVal)) (mainPs extraPs : List (Node × Node)) :
      env.find c = some d → d.kind = .plain →
      ObjOK env tbl fuel rt d (.map tMap ps m) kw.toList ps.toList mainKw extraKw mainPs extraPs →
      RTcore env tbl fuel rt (.cls c) (.obj c kw) (.map tMap ps m)
  | any (v : PyVal) (n : Node) (cs : List Call) :
      construct env tbl (fuel + 1) (stripTags tbl n) = .ok ⟨v, cs⟩ →
      RTcore env tbl fuel rt .any v n

/-- `n` is a faithful description of `v` for the declared type `T`, for a loader with this much fuel -/
def RT (env : Env) (tbl : List Entry) : Nat → Ty → PyVal → Node → Prop
  | 0, _, _, _ => False
  | fuel + 1, T, v, n =>
    ∃ R leaves, recognize env (fuel + 1) n T = .ok ([R], leaves) ∧
      RTcore env tbl fuel (RT env tbl fuel) R v n

/-- the statement carried through the induction.  What `key_not_merge` asks of a processed dict key (the
tag of an admitted type at its root) holds of every processed node (`processNode_tag`), so it is not part of it. -/
def Loads (env : Env) (tbl : List Entry) (fuel : Nat) (T : Ty) (v : PyVal) (n : Node) : Prop :=
  ∃ p, processNode env tbl fuel n T = .ok p ∧ ∃ cs, construct env tbl fuel p.node = .ok ⟨v, cs⟩

theorem processNode_tag {env : Env} {tbl : List Entry} {fuel : Nat} {n : Node} {T : Ty} {p : ProcOut}
    (h : processNode env tbl fuel n T = .ok p) :
    ∃ R, Admits env T R ∧ (R ≠ .any → typeToTag env R = some p.node.tag) := by
  cases fuel with
  | zero => cases h
  | succ fuel =>
    obtain ⟨R, ls, _, _, _, _, hrec, -, -, htag⟩ := processNode_ok h
    refine ⟨R, recognize_admits env _ n T [R] ls hrec R (List.mem_singleton.mpr rfl), fun hR => ?_⟩
    obtain ⟨-, ⟨rfl, -⟩ | ⟨-, tag, htt, ho⟩⟩ := tagStep_ok htag
    · exact absurd rfl hR
    · rw [ho, tag_setTag, htt]

-- `h` only says that the fuel is not zero
theorem construct_key_of {env : Env} {tbl : List Entry} {fuel : Nat} {n : Node} {o : ConsOut}
    (h : construct env tbl fuel n = .ok o) (name : String) (mk : Mark) :
    construct env tbl fuel (.scalar tStr name mk) = .ok ⟨strKey name, []⟩ := by
  cases fuel with
  | zero => cases h
  | succ f =>
    rw [construct_scalar_core env tbl f name mk (t := tStr) (by simp only [core_tags]), constructScalarCore_str]
    rfl

theorem procItems_all2 {α : Type} {r : α → Node → Prop} (proc : Node → Ty → ProcRes) (T : Ty) {xs : List α}
    {ns : List Node} (h : All2 (fun x n => ∃ p, proc n T = .ok p ∧ r x p.node) xs ns) :
    ∃ ys tr, procItems proc T ns = .ok (ys, tr) ∧ All2 r xs ys := by
  induction h with
  | nil => exact ⟨[], [], rfl, .nil⟩
  | cons hx _ ih =>
    obtain ⟨p, hp, hr⟩ := hx
    obtain ⟨ys, tr, hys, hall⟩ := ih
    exact ⟨p.node :: ys, p.trace ++ tr, by simp only [procItems, hp, hys], .cons hr hall⟩

theorem consItems_all2 {cons : Node → ConsRes} {xs : List PyVal} {ys : List Node}
    (h : All2 (fun x y => ∃ cs, cons y = .ok ⟨x, cs⟩) xs ys) (calls : List Call) :
    ∃ cs', consItems cons ys calls = .ok (xs, cs') := by
  induction h generalizing calls with
  | nil => exact ⟨calls, rfl⟩
  | cons hx _ ih =>
    obtain ⟨cs, hc⟩ := hx
    obtain ⟨cs', h⟩ := ih (calls ++ cs)
    exact ⟨cs', by simp only [consItems, hc, h]⟩

theorem construct_seq (env : Env) (tbl : List Entry) (f : Nat) (xs : List PyVal) (ys : List Node) (m : Mark)
    (h : All2 (fun x y => ∃ cs, construct env tbl f y = .ok ⟨x, cs⟩) xs ys) :
    ∃ cs, construct env tbl (f + 1) (.seq tSeq (Nodes.ofList ys) m) = .ok ⟨.list (PyVals.ofList xs), cs⟩ := by
  obtain ⟨cs, hc⟩ := consItems_all2 h []
  have hcore : hasPrefix corePrefix tSeq = true := by simp only [core_tags]
  refine ⟨cs, ?_⟩
  rw [construct_seq_eq (byTag_core env tSeq hcore) (core_ne_path tSeq hcore)]
  -- `-BEq.rfl`: it sets off a slow search for `ReflBEq String`; `beq_iff_eq` does the work
  simp [-BEq.rfl, hc]

def NotMergeKey (k : Node) : Prop := (k.tag == tMerge) = false ∧ (k.tag == tValue) = false

theorem tStr_not_merge {name : String} {mk : Mark} : NotMergeKey (.scalar tStr name mk) := tag_not_merge (.inl rfl)

theorem key_not_merge (env : Env) (K R : Ty) (p : Node) (hK : keyTypeOk env K = true) (ha : Admits env K R)
    (ht : R ≠ .any → typeToTag env R = some p.tag) : (p.tag == tMerge) = false ∧ (p.tag == tValue) = false := by
  refine tag_not_merge ?_
  cases K with
  | str =>
    cases ha
    exact .inl (Option.some.inj (ht nofun)).symm
  | cls c =>
    cases ha with
    | self _ h _ => exact absurd rfl (h c)
    | cls _ _ =>
      have := ht nofun
      simp only [typeToTag] at this
      split at this
      · exact .inr ⟨_, (Option.some.inj this).symm⟩
      · cases this
  | _ => cases hK

theorem procPairs_all2 {α : Type} {r : α → Node × Node → Prop} (proc : Node → Ty → ProcRes) (K V : Ty)
    {kvs : List α} {ps : List (Node × Node)}
    (h : All2 (fun e p => ∃ pk pv, proc p.1 K = .ok pk ∧ proc p.2 V = .ok pv ∧ r e (pk.node, pv.node)) kvs ps) :
    ∃ qs tr, procPairs proc K V ps = .ok (qs, tr) ∧ All2 r kvs qs := by
  induction h with
  | nil => exact ⟨[], [], rfl, .nil⟩
  | @cons _ p _ _ hx _ ih =>
    obtain ⟨k, v⟩ := p
    obtain ⟨pk, pv, hpk, hpv, hr⟩ := hx
    obtain ⟨qs, tr, hqs, hall⟩ := ih
    exact ⟨(pk.node, pv.node) :: qs, pk.trace ++ pv.trace ++ tr, by simp only [procPairs, hpk, hpv, hqs],
      .cons hr hall⟩

theorem flattenPairs_plain_keys (fuel : Nat) (qs : List (Node × Node)) (h : ∀ q ∈ qs, NotMergeKey q.1) :
    flattenPairs (fuel + 1) qs = some qs :=
  flattenPairs_id fuel qs h

theorem dictSet_append (acc : List (PyVal × PyVal)) (k v : PyVal)
    (h : ∀ e ∈ acc, keyEq e.1 k = false) : dictSet acc k v = acc ++ [(k, v)] := by
  induction acc with
  | nil => rfl
  | cons e r ih =>
    simp [dictSet, h e List.mem_cons_self, ih (fun e he => h e (List.mem_cons_of_mem _ he))]

theorem consPairs_all2 (cons : Node → ConsRes) :
    ∀ (kvs : List (PyVal × PyVal)) (qs : List (Node × Node)) (acc : List (PyVal × PyVal)) (calls : List Call),
      All2 (fun e q => (∃ ck, cons q.1 = .ok ⟨e.1, ck⟩) ∧ NotMergeKey q.1 ∧ (∃ cv, cons q.2 = .ok ⟨e.2, cv⟩)) kvs qs →
      (∀ e ∈ kvs, hashable e.1 = true) →
      (acc ++ kvs).Pairwise (fun a b => keyEq a.1 b.1 = false) →
      ∃ cs', consPairs cons qs acc calls = .ok (acc ++ kvs, cs') := by
  intro kvs qs acc calls h
  induction h generalizing acc calls with
  | nil => exact fun _ _ => ⟨calls, by simp [consPairs]⟩
  | @cons e q kvs _ hx _ ih =>
    obtain ⟨k, v⟩ := e
    obtain ⟨qk, qv⟩ := q
    obtain ⟨⟨ck, hck⟩, -, cv, hcv⟩ := hx
    intro hh hp
    -- the new key differs from those set so far, so `d[k] = v` appends
    have hacc : ∀ e' ∈ acc, keyEq e'.1 k = false := fun e' he' =>
      (List.pairwise_append.mp hp).2.2 e' he' (k, v) List.mem_cons_self
    obtain ⟨cs', h⟩ := ih (acc ++ [(k, v)]) (calls ++ ck ++ cv) (fun e he => hh e (List.mem_cons_of_mem _ he))
      (by rwa [List.append_assoc])
    have hk : hashable k = true := hh (k, v) List.mem_cons_self
    simp only at hck hcv
    exact ⟨cs', by simpa [consPairs, hck, hcv, hk, dictSet_append acc k v hacc] using h⟩

theorem construct_map (env : Env) (tbl : List Entry) (f : Nat) (kvs : List (PyVal × PyVal))
    (qs : List (Node × Node)) (m : Mark)
    (h : All2 (fun e q => (∃ ck, construct env tbl f q.1 = .ok ⟨e.1, ck⟩) ∧ NotMergeKey q.1 ∧
      (∃ cv, construct env tbl f q.2 = .ok ⟨e.2, cv⟩)) kvs qs) (hk : KeysOk kvs) :
    ∃ cs, construct env tbl (f + 1) (.map tMap (Pairs.ofList qs) m) = .ok ⟨.dict (PyKVs.ofList kvs), cs⟩ := by
  obtain ⟨cs, hc⟩ := consPairs_all2 (construct env tbl f) kvs qs [] [] h hk.1 hk.2
  have hflat := flattenPairs_id f qs fun q hq => by
    obtain ⟨_, _, _, hnm, _⟩ := h.mem_right q hq
    exact hnm
  have hcore : hasPrefix corePrefix tMap = true := by simp only [core_tags]
  refine ⟨cs, ?_⟩
  rw [construct_map_eq (byTag_core env tMap hcore) (core_ne_path tMap hcore)]
  simp [-BEq.rfl, hflat, hc]

def KeysDistinct (ps : List (Node × Node)) : Prop :=
  (ps.map (fun p => p.1)).Pairwise (fun a b => ∀ s, a.keyIs s = true → b.keyIs s = false)

theorem keysDistinct_cons {p : Node × Node} {ps : List (Node × Node)} (h : KeysDistinct (p :: ps)) :
    (∀ q ∈ ps, ∀ s, p.1.keyIs s = true → q.1.keyIs s = false) ∧ KeysDistinct ps :=
  have ⟨h1, h2⟩ := List.pairwise_cons.mp h
  ⟨fun q hq => h1 q.1 (List.mem_map_of_mem hq), h2⟩

theorem valuesOf_distinct : ∀ (ps : List (Node × Node)) (a : String) (p0 : Node × Node),
    KeysDistinct ps → p0 ∈ ps → p0.1.keyIs a = true → valuesOf ps a = [p0.2] := by
  intro ps a p0 hd hmem hk
  induction ps with
  | nil => cases hmem
  | cons p ps ih =>
    obtain ⟨hfirst, hrest⟩ := keysDistinct_cons hd
    rw [valuesOf_cons]
    rcases List.mem_cons.mp hmem with rfl | hmem
    · rw [if_pos hk, valuesOf_nil_of_no_key ps a (List.any_eq_false.mpr fun q hq =>
        hfirst q hq a hk ▸ Bool.false_ne_true)]
    · have hp : p.1.keyIs a = false := by
        cases hpk : p.1.keyIs a
        · rfl
        · exact hk.symm.trans (hfirst p0 hmem a hpk)
      rw [hp, if_neg Bool.false_ne_true, ih hrest hmem]

def setVal (a : String) (v : Node) (p : Node × Node) : Node × Node := if p.1.keyIs a then (p.1, v) else p

theorem setFirst_map {ps : List (Node × Node)} {a : String} {v : Node}
    (hd : KeysDistinct ps) (hk : hasKey ps a = true) : setFirst ps a v = ps.map (setVal a v) := by
  induction ps with
  | nil => cases hk
  | cons p ps ih =>
    obtain ⟨k, x⟩ := p
    obtain ⟨hfirst, hrest⟩ := keysDistinct_cons hd
    rw [setFirst, List.map_cons, setVal]
    cases hka : k.keyIs a
    · rw [hasKey, List.any_cons, hka, Bool.false_or] at hk
      rw [if_neg Bool.false_ne_true, if_neg Bool.false_ne_true, ih hrest hk]
    · rw [if_pos rfl, if_pos rfl, (List.map_congr_left fun q hq => by
        rw [setVal, hfirst q hq a hka, if_neg Bool.false_ne_true]).trans (List.map_id' ps)]

def procNodeOf (proc : Node → Ty → ProcRes) (x : Node) (T : Ty) : Node :=
  match proc x T with
  | .ok o => o.node
  | .error _ => x

/-- what the attribute loop leaves of one pair: the value processed for the parameter the key names -/
def updPair (proc : Node → Ty → ProcRes) (params : List Param) (p : Node × Node) : Node × Node :=
  match params.find? (fun prm => p.1.keyIs prm.name) with
  | some prm => (p.1, procNodeOf proc p.2 prm.ty)
  | none => p

theorem updPair_fst (proc : Node → Ty → ProcRes) (params : List Param) (p : Node × Node) :
    (updPair proc params p).1 = p.1 := by
  unfold updPair; split <;> rfl

theorem setVal_fst (a : String) (v : Node) (p : Node × Node) : (setVal a v p).1 = p.1 := by
  unfold setVal; split <;> rfl

theorem procAttrs_map (proc : Node → Ty → ProcRes) (t : String) (m : Mark) :
    ∀ (params : List Param) (ps : List (Node × Node)),
      KeysDistinct ps → (params.map (·.name)).Nodup →
      (∀ prm ∈ params, ∀ p ∈ ps, p.1.keyIs prm.name = true → ∃ o, proc p.2 prm.ty = .ok o) →
      ∃ tr, procAttrs proc (.map t (Pairs.ofList ps) m) params
          = .ok (.map t (Pairs.ofList (ps.map (updPair proc params))) m, tr) := by
  intro params
  induction params with
  | nil => exact fun ps _ _ _ => ⟨[], by rw [show updPair proc [] = id from rfl, List.map_id]; rfl⟩
  | cons prm rest ih =>
    intro ps hd hnd hs
    obtain ⟨hnotin, hnd'⟩ := List.nodup_cons.mp hnd
    have hs' := fun q hq => hs q (List.mem_cons_of_mem _ hq)
    simp only [procAttrs, hasAttribute, Pairs.toList_ofList]
    cases hk : hasKey ps prm.name
    · obtain ⟨tr, ih⟩ := ih ps hd hnd' hs'
      have hno := List.any_eq_false.mp hk
      rw [List.map_congr_left (g := updPair proc rest) fun p hp => by simp [updPair, List.find?, hno p hp]]
      exact ⟨tr, ih⟩
    · obtain ⟨p0, hp0, hk0⟩ := List.any_eq_true.mp hk
      have hvals := valuesOf_distinct ps prm.name p0 hd hp0 hk0
      obtain ⟨o, ho⟩ := hs prm List.mem_cons_self p0 hp0 hk0
      -- a pair with this key is `p0`, and its key names no later parameter
      have hkey : ∀ p ∈ ps, p.1.keyIs prm.name = true →
          p.2 = p0.2 ∧ rest.find? (fun q => p.1.keyIs q.name) = none := fun p hp hkp =>
        ⟨List.mem_singleton.mp (hvals ▸ List.mem_map.mpr ⟨p, List.mem_filter.mpr ⟨hp, hkp⟩, rfl⟩),
          List.find?_eq_none.mpr fun q hq hkq => hnotin (List.mem_map.mpr
            ⟨q, hq, keyIs_two p.1 q.name prm.name hkq hkp⟩)⟩
      obtain ⟨tr, ih⟩ := ih (ps.map (setVal prm.name o.node))
        (by simpa [KeysDistinct, Function.comp_def, setVal_fst] using hd)
        hnd' fun q hq p1 hp1 hkq => by
          obtain ⟨p, hp, rfl⟩ := List.mem_map.mp hp1
          rw [setVal_fst] at hkq
          cases hkp : p.1.keyIs prm.name
          · rw [setVal, hkp, if_neg Bool.false_ne_true]
            exact hs' q hq p hp hkq
          · exact absurd hkq (List.find?_eq_none.mp (hkey p hp hkp).2 q hq)
      refine ⟨o.trace ++ tr, ?_⟩
      have hfinal : (ps.map (setVal prm.name o.node)).map (updPair proc rest)
          = ps.map (updPair proc (prm :: rest)) := by
        rw [List.map_map]
        refine List.map_congr_left fun p hp => ?_
        cases hkp : p.1.keyIs prm.name
        · simp [setVal, hkp, updPair, List.find?]
        · simp [setVal, hkp, updPair, List.find?, hkey p hp hkp, procNodeOf, ho]
      simp only [getAttribute, Pairs.toList_ofList, hvals, ho, setAttribute, setFirst_map hd hk, ih, hfinal]

theorem keyEq_str (a b : String) : keyEq (strKey a) (strKey b) = (a == b) := by
  rw [Bool.eq_iff_iff]
  simp [keyEq.eq_def, numKey.eq_def, strKey]

theorem eq_of_name : ∀ (l : List Param), (l.map (·.name)).Nodup → ∀ a ∈ l, ∀ b ∈ l, a.name = b.name → a = b := by
  intro l h a ha b hb hab
  induction l with
  | nil => cases ha
  | cons x l ih =>
    have hnd := List.nodup_cons.mp h
    rcases List.mem_cons.mp ha with rfl | ha' <;> rcases List.mem_cons.mp hb with rfl | hb'
    · rfl
    · exact absurd (List.mem_map.mpr ⟨b, hb', hab.symm⟩) hnd.1
    · exact absurd (List.mem_map.mpr ⟨a, ha', hab⟩) hnd.1
    · exact ih hnd.2 ha' hb'

theorem find_of_name {params : List Param} (hnd : (params.map (·.name)).Nodup) {prm : Param} (hp : prm ∈ params)
    (p : Param → Bool) (hpn : ∀ q, p q = true ↔ q.name = prm.name) : params.find? p = some prm := by
  cases hf : params.find? p with
  | none => exact absurd ((hpn prm).mpr rfl) (List.find?_eq_none.mp hf prm hp)
  | some q =>
    rw [eq_of_name params hnd q (List.mem_of_find?_eq_some hf) prm hp ((hpn q).mp (List.find?_some hf))]

theorem dictGet_mem {mapping : List (PyVal × PyVal)} {k : String} {v : PyVal} (h : dictGet mapping k = some v) :
    ∃ e ∈ mapping, keyEq e.1 (strKey k) = true ∧ e.2 = v := by
  unfold dictGet at h
  obtain ⟨e, hf, rfl⟩ := Option.map_eq_some_iff.mp h
  have hk := List.find?_some hf
  exact ⟨e, List.mem_of_find?_eq_some hf, hk, rfl⟩

theorem dictGet_none {mapping : List (PyVal × PyVal)} {k : String} (h : dictGet mapping k = none) :
    ∀ e ∈ mapping, keyEq e.1 (strKey k) = false := by
  unfold dictGet at h
  exact fun e he => Bool.not_eq_true _ ▸ List.find?_eq_none.mp (Option.map_eq_none_iff.mp h) e he


/-- the facts about the keyword arguments that the attribute checks rely on -/
structure KwFacts (env : Env) (d : ClassDef) (mainKw extraKw : List (PyVal × PyVal)) : Prop where
  main : ∀ e ∈ mainKw, ∃ name prm, e.1 = strKey name ∧ prm ∈ d.params ∧ prm.name = name ∧
            typeMatches env e.2 prm.ty = true
  extra : ∀ e ∈ extraKw, ∃ name, e.1 = strKey name ∧ d.argNames.contains name = false ∧ name ≠ "self"
  required : ∀ prm ∈ d.params, prm.required = true → ∃ e ∈ mainKw, e.1 = strKey prm.name
  paramsNodup : (d.params.map (·.name)).Nodup
  argsParams : ∀ prm ∈ d.params, d.argNames.contains prm.name = true ∧ prm.name ≠ "_yatiml_extra" ∧ prm.name ≠ "self"
  noExtra : d.takesExtra = false → extraKw = []

theorem checkAttributes_none_of (env : Env) (d : ClassDef) (n : Node) (ps1 : List (Node × Node))
    (mainKw extraKw : List (PyVal × PyVal)) (F : KwFacts env d mainKw extraKw) :
    checkAttributes env d n ps1 (mainKw ++ extraKw) = none := by
  unfold checkAttributes
  generalize hmiss : List.findSome? _ d.params = missing
  have hnone : missing = none := by
    rw [← hmiss]
    refine List.findSome?_eq_none_iff.mpr fun prm hprm => ?_
    cases hg : dictGet (mainKw ++ extraKw) prm.name with
    | none =>
      cases hr : prm.required
      · simp
      · obtain ⟨e, he, hek⟩ := F.required prm hprm hr
        have := dictGet_none hg e (List.mem_append_left _ he)
        rw [hek, keyEq_str, beq_eq_false_iff_ne] at this
        cases this rfl
    | some v =>
      obtain ⟨e, he, hke, rfl⟩ := dictGet_mem hg
      rcases List.mem_append.mp he with hm | hx
      · obtain ⟨name, prm', hk, hp', hn', htm⟩ := F.main e hm
        rw [hk, keyEq_str, beq_iff_eq] at hke
        cases eq_of_name d.params F.paramsNodup prm' hp' prm hprm (hn'.trans hke)
        simp [htm]
      · obtain ⟨name, hk, hna, _⟩ := F.extra e hx
        rw [hk, keyEq_str, beq_iff_eq] at hke
        rw [hke, (F.argsParams prm hprm).1] at hna
        cases hna
  subst hnone
  refine List.findSome?_eq_none_iff.mpr fun e he => ?_
  rcases List.mem_append.mp he with hm | hx
  · obtain ⟨name, prm, hk, hp, rfl, htm⟩ := F.main e hm
    have hfind := find_of_name F.paramsNodup hp (fun p => p.name == prm.name) fun q => beq_iff_eq
    simp [hk, strKey, List.contains_iff_mem.mp (F.argsParams prm hp).1, hfind, htm]
  · obtain ⟨name, hk, hna, hself⟩ := F.extra e hx
    have hte : d.takesExtra = true := by
      cases ht : d.takesExtra
      · rw [F.noExtra ht] at hx
        cases hx
      · rfl
    have hfind : d.params.find? (fun p => p.name == name) = none :=
      List.find?_eq_none.mpr fun q hq hqn => by
        rw [← beq_iff_eq.mp hqn, (F.argsParams q hq).1] at hna
        cases hna
    -- `_yatiml_extra` is an argument of a class that takes extra attributes
    have hne : (name == "_yatiml_extra") = false := beq_eq_false_iff_ne.mpr fun h => by
      rw [h, show d.argNames.contains "_yatiml_extra" = true from hte] at hna
      cases hna
    have hna' : name ∉ d.argNames := by simpa using hna
    simp [hk, strKey, hna', hte, hfind, hne]

theorem construct_plain (env : Env) (tbl : List Entry) (fuel : Nat) (c : String) (d : ClassDef)
    (ps' : List (Node × Node)) (m : Mark) (mapping : List (PyVal × PyVal)) (calls : List Call)
    (hd : env.find c = some d) (hk : d.kind = .plain)
    (hkeys : ps'.all (fun p => p.1.isScalarNode && p.1.tag == tStr) = true)
    (hflat : flattenPairs (fuel + 1) (ps'.map (stripExtra tbl d)) = some (ps'.map (stripExtra tbl d)))
    (hcons : consPairs (construct env tbl fuel) (ps'.map (stripExtra tbl d)) [] [] = .ok (mapping, calls))
    (hcheck : checkAttributes env d (.map ("!" ++ c) (Pairs.ofList ps') m) (ps'.map (stripExtra tbl d)) mapping = none)
    (hself : (dictGet mapping "self").isSome = false)
    (hinit : d.initRaises (scalarArgs (kwargsOf d mapping)) = false) :
    construct env tbl (fuel + 1) (.map ("!" ++ c) (Pairs.ofList ps') m)
      = .ok ⟨.obj d.name (PyKVs.ofList (kwargsOf d mapping)), calls ++ [⟨d.name, kwargsOf d mapping⟩]⟩ := by
  have htag : (Node.map ("!" ++ c) (Pairs.ofList ps') m).tag = "!" ++ c := rfl
  unfold construct
  simp only [htag, byTag_bang, hd, hk, Pairs.toList_ofList, hkeys, Bool.not_true, Bool.false_eq_true, ↓reduceIte]
  rw [List.map_congr_left (g := stripExtra tbl d)]
  · simp only [hflat, hcons, hcheck, hself, hinit, Bool.false_eq_true, ↓reduceIte]
  · intro p _
    unfold stripExtra
    rfl

theorem keyIs_scalar (t v : String) (m : Mark) (a : String) : (Node.scalar t v m).keyIs a = (v == a) := rfl

theorem kwargsOf_eq (env : Env) (d : ClassDef) (mainKw extraKw : List (PyVal × PyVal))
    (F : KwFacts env d mainKw extraKw) :
    kwargsOf d (mainKw ++ extraKw) =
      mainKw ++ (if d.takesExtra then [(strKey "_yatiml_extra", .dict (PyKVs.ofList extraKw))] else []) := by
  unfold kwargsOf
  cases ht : d.takesExtra
  · simp [F.noExtra ht]
  · -- the test `kwargsOf` filters by holds of the parameters' arguments and of no extra attribute
    have hm : ∀ e ∈ mainKw, ∃ name, e.1 = strKey name ∧ name ∈ d.argNames ∧ name ≠ "_yatiml_extra" :=
      fun e he => by
        obtain ⟨_, prm, hk, hp, rfl, _⟩ := F.main e he
        exact ⟨_, hk, List.contains_iff_mem.mp (F.argsParams prm hp).1, (F.argsParams prm hp).2.1⟩
    have hx : ∀ e ∈ extraKw, ∃ name, e.1 = strKey name ∧ name ∉ d.argNames := fun e he => by
      obtain ⟨name, hk, hna, _⟩ := F.extra e he
      exact ⟨name, hk, by simpa using hna⟩
    simp only [↓reduceIte, List.filter_append]
    rw [List.filter_eq_self.mpr, List.filter_eq_nil_iff.mpr, List.filter_eq_nil_iff.mpr, List.filter_eq_self.mpr]
    · simp [strKey]
    all_goals intro e he
    · obtain ⟨name, hk, hna⟩ := hx e he
      simp [hk, strKey, hna]
    · obtain ⟨name, hk, ha, hne⟩ := hm e he
      simp [hk, strKey, ha, hne]
    · obtain ⟨name, hk, hna⟩ := hx e he
      simp [hk, strKey, hna]
    · obtain ⟨name, hk, ha, hne⟩ := hm e he
      simp [hk, strKey, ha, hne]

theorem dictGet_self {env : Env} {d : ClassDef} {mainKw extraKw : List (PyVal × PyVal)}
    (F : KwFacts env d mainKw extraKw) : (dictGet (mainKw ++ extraKw) "self").isSome = false := by
  cases hg : dictGet (mainKw ++ extraKw) "self" with
  | none => rfl
  | some v =>
    obtain ⟨e, he, hke, _⟩ := dictGet_mem hg
    rcases List.mem_append.mp he with hm | hx
    · obtain ⟨name, prm, hk, hp, hn, _⟩ := F.main e hm
      rw [hk, keyEq_str, beq_iff_eq] at hke
      exact absurd (hn.trans hke) (F.argsParams prm hp).2.2
    · obtain ⟨name, hk, _, hs⟩ := F.extra e hx
      rw [hk, keyEq_str, beq_iff_eq] at hke
      exact absurd hke hs

theorem updPair_param (proc : Node → Ty → ProcRes) {params : List Param} (hnd : (params.map (·.name)).Nodup)
    {prm : Param} (hp : prm ∈ params) (t : String) (mk : Mark) (x : Node) :
    updPair proc params (.scalar t prm.name mk, x) = (.scalar t prm.name mk, procNodeOf proc x prm.ty) := by
  simp only [updPair, find_of_name hnd hp (fun q => (Node.scalar t prm.name mk).keyIs q.name)
    fun q => beq_iff_eq.trans eq_comm]

theorem updPair_other (proc : Node → Ty → ProcRes) {params : List Param} {p : Node × Node}
    (h : ∀ q ∈ params, p.1.keyIs q.name = false) : updPair proc params p = p := by
  simp only [updPair, List.find?_eq_none.mpr fun q hq => Bool.not_eq_true _ ▸ h q hq]

theorem obj_loads {env : Env} {tbl : List Entry} {fuel : Nat}
    (IH : ∀ T v n, RT env tbl fuel T v n → Loads env tbl fuel T v n) {c : String} {kw : PyKVs} {ps : Pairs}
    {m : Mark} {d : ClassDef} {mainKw extraKw : List (PyVal × PyVal)} {mainPs extraPs : List (Node × Node)}
    (hd : env.find c = some d) (hk : d.kind = .plain)
    (O : ObjOK env tbl fuel (RT env tbl fuel) d (.map tMap ps m) kw.toList ps.toList mainKw extraKw mainPs extraPs) :
    ∃ qs tr cs, procAttrs (processNode env tbl fuel) (.map tMap ps m) d.params
        = .ok (.map tMap (Pairs.ofList qs) m, tr) ∧
      construct env tbl (fuel + 1) (.map ("!" ++ c) (Pairs.ofList qs) m) = .ok ⟨.obj c kw, cs⟩ := by
  let proc : Node → Ty → ProcRes := processNode env tbl fuel
  -- every pair with its keyword argument: same name, the parameters its key names process, and what the
  -- attribute loop and `__strip_extra_attributes` leave of its value constructs to the argument
  have hall : All2 (fun e p => ∃ name mk, e.1 = strKey name ∧ p.1 = .scalar tStr name mk ∧
      (∀ prm ∈ d.params, p.1.keyIs prm.name = true → ∃ o, proc p.2 prm.ty = .ok o) ∧
      ∃ cv, construct env tbl fuel (stripExtra tbl d (updPair proc d.params p)).2 = .ok ⟨e.2, cv⟩)
      (mainKw ++ extraKw) ps.toList := by
    rw [O.psEq]
    refine (O.main.imp ?_).append (O.extra.imp ?_)
    · rintro e ⟨_, px⟩ ⟨name, mk, prm, h1, rfl, h3, rfl, hrt, -⟩
      obtain ⟨pv, hpv, cv, hcv⟩ := IH _ _ _ hrt
      have ha := O.argsParams prm h3
      refine ⟨_, mk, h1, rfl, fun q hq hkq => ?_, cv, ?_⟩
      · cases eq_of_name d.params O.paramsNodup q hq prm h3 (beq_iff_eq.mp hkq).symm
        exact ⟨pv, hpv⟩
      · rw [updPair_param proc O.paramsNodup h3, stripExtra_scalar, ha.1, bne_iff_ne.mpr ha.2.1]
        simpa only [procNodeOf, proc, hpv, Bool.and_self, if_true] using hcv
    · rintro e ⟨_, px⟩ ⟨name, mk, cs, h1, rfl, h3, -, hc⟩
      have hother : ∀ q ∈ d.params, (Node.scalar tStr name mk).keyIs q.name = false := fun q hq => by
        rw [keyIs_scalar, beq_eq_false_iff_ne]
        rintro rfl
        rw [(O.argsParams q hq).1] at h3
        cases h3
      refine ⟨name, mk, h1, rfl, fun q hq hkq => ?_, cs, ?_⟩
      · rw [hother q hq] at hkq
        cases hkq
      · rw [updPair_other proc hother, stripExtra_scalar, h3]
        exact hc
  have F : KwFacts env d mainKw extraKw :=
    { main := fun e he => by
        obtain ⟨_, _, name, _, prm, h1, _, h3, h4, _, h6⟩ := O.main.mem_left e he
        exact ⟨name, prm, h1, h3, h4, h6⟩
      extra := fun e he => by
        obtain ⟨_, _, name, _, _, h1, _, h3, h4, _⟩ := O.extra.mem_left e he
        exact ⟨name, h1, h3, h4⟩
      required := O.required
      paramsNodup := O.paramsNodup
      argsParams := O.argsParams
      noExtra := O.noExtra }
  obtain ⟨tr, hattrs⟩ := procAttrs_map proc tMap m d.params ps.toList O.distinct O.paramsNodup
    fun prm hprm p hp => by
      obtain ⟨_, _, _, _, _, _, h, _⟩ := hall.mem_right p hp
      exact h prm hprm
  rw [Pairs.ofList_toList] at hattrs
  -- PyYAML's mapping construction: no merge keys, keys pairwise different
  have hq : All2 (fun e q => (∃ ck, construct env tbl fuel q.1 = .ok ⟨e.1, ck⟩) ∧ NotMergeKey q.1 ∧
      (∃ cv, construct env tbl fuel q.2 = .ok ⟨e.2, cv⟩)) (mainKw ++ extraKw)
      ((ps.toList.map (updPair proc d.params)).map (stripExtra tbl d)) := by
    rw [List.map_map]
    refine hall.map_right _ ?_
    rintro e p ⟨name, mk, h1, h2, -, cv, hcv⟩
    rw [Function.comp, stripExtra_fst, updPair_fst, h2, h1]
    exact ⟨⟨[], construct_key_of hcv name mk⟩, tStr_not_merge, cv, hcv⟩
  have hflat := flattenPairs_id fuel _ fun q hq' => by
    obtain ⟨_, _, _, hnm, _⟩ := hq.mem_right q hq'
    exact hnm
  obtain ⟨cs', hcons⟩ := consPairs_all2 (construct env tbl fuel) (mainKw ++ extraKw) _ [] [] hq
    (fun e he => by
      obtain ⟨_, _, name, _, h1, _⟩ := hall.mem_left e he
      rw [h1]
      rfl)
    (hall.pairwise (by
      rintro e p e' p' ⟨name, mk, h1, h2, _⟩ ⟨name', mk', h1', h2', _⟩ hne
      have := hne name (by rw [h2, keyIs_scalar, beq_iff_eq])
      rw [h2', keyIs_scalar] at this
      rw [h1, h1', keyEq_str, ← this, Bool.beq_comm]) (List.pairwise_map.mp O.distinct))
  have hkeys : (ps.toList.map (updPair proc d.params)).all (fun p => p.1.isScalarNode && p.1.tag == tStr) = true := by
    rw [List.all_map]
    refine List.all_eq_true.mpr fun p hp => ?_
    obtain ⟨_, _, name, mk, _, h2, _⟩ := hall.mem_right p hp
    rw [Function.comp, updPair_fst, h2]
    exact beq_iff_eq.mpr rfl
  have hkw' : kwargsOf d (mainKw ++ extraKw) = kw.toList := by rw [kwargsOf_eq env d mainKw extraKw F, O.kwEq]
  have hcons' := construct_plain env tbl fuel c d (ps.toList.map (updPair proc d.params)) m (mainKw ++ extraKw) cs'
    hd hk hkeys hflat hcons (checkAttributes_none_of env d _ _ mainKw extraKw F) (dictGet_self F)
    (by rw [hkw']; exact O.init)
  rw [hkw', PyKVs.ofList_toList, find_name env c d hd] at hcons'
  exact ⟨_, tr, _, hattrs, hcons'⟩

/-- **Round trip at node level.**  A node that faithfully describes `v` for the declared type `T` loads
to `v`. -/
theorem RT_loads (env : Env) (tbl : List Entry) (fuel : Nat) :
    ∀ (T : Ty) (v : PyVal) (n : Node), RT env tbl fuel T v n → Loads env tbl fuel T v n := by
  induction fuel with
  | zero => exact fun _ _ _ h => h.elim
  | succ fuel IH =>
    intro T v n h
    obtain ⟨R, ls, hrec, hcore⟩ := h
    simp only [Loads, processNode, hrec]
    cases hcore with
    | str s m | null s m | int _ s m hv | float _ _ s m hv | bool _ s m hv | boolFix _ s m hv | date _ s m hv =>
      -- the tag of the type is the tag the node has already; its constructor reads the text back
      refine ⟨⟨.scalar _ s m, []⟩, rfl, [], ?_⟩
      rw [construct_scalar_core env tbl fuel s m (by simp only [core_tags])]
      simp only [constructScalarCore_str, constructScalarCore_null, constructScalarCore_int,
        constructScalarCore_float, constructScalarCore_bool, constructScalarCore_timestamp, *]
    | path s m hnp =>
      refine ⟨⟨.scalar "!Path" s m, []⟩, rfl, [], ?_⟩
      have hb : env.byTag "!Path" = none := (byTag_bang env "Path").trans hnp
      unfold construct
      simp [Node.tag, hb]
    | seq k item xs ns m hall =>
      obtain ⟨ys, tr, hys, hall'⟩ := procItems_all2 (r := fun x y => ∃ cs, construct env tbl fuel y = .ok ⟨x, cs⟩)
        (processNode env tbl fuel) item (hall.imp fun x n => IH item x n)
      obtain ⟨cs, hc⟩ := construct_seq env tbl fuel xs.toList ys m hall'
      rw [PyVals.ofList_toList] at hc
      exact ⟨⟨.seq tSeq (Nodes.ofList ys) m, tr⟩,
        by simp [savStep, subStep, tagStep, hys, typeToTag, Node.setTag], cs, hc⟩
    | map k K V kvs ps m hall hkeys hK =>
      obtain ⟨qs, tr, hqs, hall'⟩ := procPairs_all2 (r := fun e q =>
          (∃ ck, construct env tbl fuel q.1 = .ok ⟨e.1, ck⟩) ∧ NotMergeKey q.1 ∧
            ∃ cv, construct env tbl fuel q.2 = .ok ⟨e.2, cv⟩)
        (processNode env tbl fuel) K V (hall.imp (by
          rintro e p ⟨hk, hv⟩
          obtain ⟨pk, hpk, hck⟩ := IH K _ _ hk
          obtain ⟨pv, hpv, hcv⟩ := IH V _ _ hv
          obtain ⟨R, hadm, htag⟩ := processNode_tag hpk
          exact ⟨pk, pv, hpk, hpv, hck, key_not_merge env K R pk.node hK hadm htag, hcv⟩))
      obtain ⟨cs, hc⟩ := construct_map env tbl fuel kvs.toList qs m hall' hkeys
      rw [PyKVs.ofList_toList] at hc
      exact ⟨⟨.map tMap (Pairs.ofList qs) m, tr⟩,
        by simp [savStep, subStep, tagStep, hqs, typeToTag, Node.setTag], cs, hc⟩
    | enum c name m d members hd hk hmem hsav =>
      have hreg := find_isRegistered env c d hd
      have hne : (tStr == tBool) = false := by simp [core_tags]
      refine ⟨⟨.scalar ("!" ++ c) name m, []⟩, ?_, [], ?_⟩
      · simp [savStep, subStep, tagStep, hd, enumRetag, Node.tag, hne, hsav,
          ClassDef.isPlain, hk, typeToTag, hreg, Node.setTag]
      · unfold construct
        simp [Node.tag, byTag_bang, hd, hk, List.contains_iff_mem.mp hmem, find_name env c d hd]
    | userStr c s m d hd hk hinit hsav =>
      have hreg := find_isRegistered env c d hd
      refine ⟨⟨.scalar ("!" ++ c) s m, []⟩, ?_, [⟨d.name, [(.scalar (.str ""), .scalar (.str s))]⟩], ?_⟩
      · simp [savStep, subStep, tagStep, hd, enumRetag, ClassDef.isEnum, hsav,
          ClassDef.isPlain, hk, typeToTag, hreg, Node.setTag]
      · unfold construct
        simp [Node.tag, byTag_bang, hd, hk, hinit, find_name env c d hd]
    | obj c kw ps m d mainKw extraKw mainPs extraPs hd hk O =>
      obtain ⟨qs, tr, cs, hattrs, hc⟩ := obj_loads IH hd hk O
      have hreg := find_isRegistered env c d hd
      exact ⟨⟨.map ("!" ++ c) (Pairs.ofList qs) m, tr⟩,
        by simp [savStep, subStep, tagStep, hd, enumRetag, ClassDef.isEnum, O.sav,
          ClassDef.isPlain, hk, Node.isMapNode, hattrs, typeToTag, hreg, Node.setTag], cs, hc⟩
    | any v n cs hc => exact ⟨⟨stripTags tbl n, []⟩, rfl, cs, hc⟩

theorem RT_load (env : Env) (tbl : List Entry) (fuel : Nat) (T : Ty) (v : PyVal) (n : Node)
    (h : RT env tbl fuel T v n) :
    ∃ calls trace processed, loadNode env tbl fuel n T = .ok ⟨v, calls, trace, processed⟩ := by
  obtain ⟨p, hp, cs, hc⟩ := RT_loads env tbl fuel T v n h
  exact ⟨cs, p.trace, p.node, by simp [loadNode, hp, hc]⟩

end YatimlModel
