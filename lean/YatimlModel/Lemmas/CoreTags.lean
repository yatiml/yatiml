import YatimlModel.Model.Node
import YatimlModel.Lemmas.CoreTagsAttr
/-!
The core-schema tags are `corePrefix ++ name`.  Seen that way, that a tag has the core prefix and that
two tags differ are facts about the short names: `simp [core_tags]` decides them without comparing the
long strings character by character (which is slow in the kernel).  A tag with the core
prefix is no `!Name` tag (`hasPrefix_core_not_bang`, `core_ne_path`).
-/
namespace YatimlModel

def coreTag (name : String) : String := corePrefix ++ name

@[core_tags] theorem hasPrefix_coreTag (name : String) : hasPrefix corePrefix (coreTag name) = true := by
  simp [hasPrefix, coreTag, String.toList_append]

@[core_tags] theorem coreTag_inj {a b : String} : coreTag a = coreTag b ↔ a = b := by
  simp [coreTag]

@[core_tags] theorem coreTag_beq (a b : String) : (coreTag a == coreTag b) = (a == b) := by
  rw [Bool.eq_iff_iff]; simp [coreTag]

@[core_tags] theorem tStr_eq : tStr = coreTag "str" := by simp [tStr, coreTag, corePrefix]
@[core_tags] theorem tInt_eq : tInt = coreTag "int" := by simp [tInt, coreTag, corePrefix]
@[core_tags] theorem tFloat_eq : tFloat = coreTag "float" := by simp [tFloat, coreTag, corePrefix]
@[core_tags] theorem tBool_eq : tBool = coreTag "bool" := by simp [tBool, coreTag, corePrefix]
@[core_tags] theorem tNull_eq : tNull = coreTag "null" := by simp [tNull, coreTag, corePrefix]
@[core_tags] theorem tTimestamp_eq : tTimestamp = coreTag "timestamp" := by simp [tTimestamp, coreTag, corePrefix]
@[core_tags] theorem tSeq_eq : tSeq = coreTag "seq" := by simp [tSeq, coreTag, corePrefix]
@[core_tags] theorem tMap_eq : tMap = coreTag "map" := by simp [tMap, coreTag, corePrefix]
@[core_tags] theorem tBinary_eq : "tag:yaml.org,2002:binary" = coreTag "binary" := by simp [coreTag, corePrefix]
@[core_tags] theorem tYaml_eq : "tag:yaml.org,2002:yaml" = coreTag "yaml" := by simp [coreTag, corePrefix]

theorem core_short (t : String) (h : hasPrefix corePrefix t = true) : hasPrefix "tag:yaml.org,2002" t = true := by
  have : corePrefix = "tag:yaml.org,2002" ++ ":" := by simp [corePrefix]
  unfold hasPrefix at h ⊢
  rw [List.isPrefixOf_iff_prefix] at h ⊢
  rw [this, String.toList_append] at h
  exact (List.prefix_append _ _).trans h

theorem hasPrefix_append (p s : String) : hasPrefix p (p ++ s) = true := by
  simp [hasPrefix, String.toList_append]

theorem hasPrefix_core_not_bang (t : String) (h : hasPrefix corePrefix t = true) : hasPrefix "!" t = false := by
  have hc : corePrefix = "t" ++ "ag:yaml.org,2002:" := by simp [corePrefix]
  unfold hasPrefix at *
  rw [hc, String.toList_append, List.isPrefixOf_iff_prefix] at h
  -- only the first character matters; `simp` on `h` itself evaluates the other seventeen in the kernel
  obtain ⟨r, hr⟩ := (List.prefix_append _ _).trans h
  simp [← hr, List.isPrefixOf]

theorem core_ne_path (t : String) (h : hasPrefix corePrefix t = true) : (t == "!Path") = false := by
  rw [beq_eq_false_iff_ne]
  rintro rfl
  have := hasPrefix_core_not_bang _ h
  rw [show "!Path" = "!" ++ "Path" by simp, hasPrefix_append] at this
  cases this

end YatimlModel
