import YatimlModel.Model.Types
/-!
Model of `yatiml.recognizer.Recognizer` (as repaired: recognition is pure, `Any`
yields a set, the ambiguity message carries a position).

`recognize` returns the *set* of recognised types (a duplicate-free list in
first-insertion order) together with the leaves of the error tree
(`format_rec_error` only ever prints the leaves).  The functions recurse
simultaneously on the node, the type, the class hierarchy and through hook
call-backs, so they take a fuel argument; running out of fuel is a distinct
outcome (`Fatal.fuel`), never a default.
-/
namespace YatimlModel
open NodeOps

inductive Fatal where
  | seasoning (marks : List Mark)   -- SeasoningError from `get_attribute` on a repeated key, citing the mapping
  | hook               -- a custom recogniser raised something other than RecognitionError
  | unregistered       -- "Could not recognize for type X, is it registered?"
  | dictKey            -- RuntimeError: dict with non-string keys in the type
  | fuel
  deriving DecidableEq, Repr

abbrev RecOut := List Ty × List Leaf
abbrev RecRes := Except Fatal RecOut

def okLeaf : Leaf := ⟨[], []⟩
def recOk (t : Ty) : RecRes := .ok ([t], [okLeaf])
def recFail (marks : List Mark) (keys : List String := []) : RecRes := .ok ([], [⟨marks, keys⟩])

def insertT (t : Ty) (s : List Ty) : List Ty := if s.contains t then s else s ++ [t]
def unionT (a b : List Ty) : List Ty := b.foldl (fun acc t => insertT t acc) a

/-- `find_leaves` of a message with the given causes -/
def leavesOf (own : Leaf) (causes : List (List Leaf)) : List Leaf :=
  if causes.isEmpty then [own] else causes.flatten

/-! ### scalars, additional types -/

def recScalar (n : Node) (T : Ty) (tag : String) : RecRes :=
  match n with
  | .scalar t _ _ => if t == tag then recOk T else recFail [n.mark]
  | _ => recFail [n.mark]

/-! ### lists and dicts: element-wise, re-wrapping an ambiguous element -/

/-- the result once every element has been looked at: the first ambiguity, if there was one -/
def recDone (T : Ty) (amb : Option RecOut) : RecRes :=
  match amb with
  | some r => .ok r
  | none => recOk T

/-- remember the first ambiguous element -/
def noteAmb (amb : Option RecOut) (ts : List Ty) (wrap : Ty → Ty) (leaves : List Leaf) : Option RecOut :=
  match amb with
  | some r => some r
  | none => if ts.length > 1 then some (ts.map wrap, leaves) else none

def recListItems (rec : Node → Ty → RecRes) (T itemTy : Ty) (amb : Option RecOut) : List Node → RecRes
  | [] => recDone T amb
  | x :: xs =>
    match rec x itemTy with
    | .error e => .error e
    | .ok (ts, leaves) =>
      if ts.length == 0 then .ok ([], leaves)          -- own message dropped: it has a cause
      else recListItems rec T itemTy (noteAmb amb ts (Ty.seq .list) leaves) xs

def recList (rec : Node → Ty → RecRes) (n : Node) (T itemTy : Ty) : RecRes :=
  match n with
  | .seq _ items _ => recListItems rec T itemTy none items.toList
  | _ => recFail [n.mark]

def recDictPairs (rec : Node → Ty → RecRes) (T keyTy valTy : Ty) (amb : Option RecOut) :
    List (Node × Node) → RecRes
  | [] => recDone T amb
  | (k, v) :: rest =>
    match rec k keyTy with
    | .error e => .error e
    | .ok (kts, kl) =>
      if kts.length == 0 then .ok ([], kl)
      else
        match rec v valTy with
        | .error e => .error e
        | .ok (vts, vl) =>
          if vts.length == 0 then .ok ([], vl)
          else recDictPairs rec T keyTy valTy
                (noteAmb (noteAmb amb kts (fun t => Ty.map .dict t valTy) kl) vts (fun t => Ty.map .dict keyTy t) vl)
                rest

/-- is the key type a class on which `is_string_like` holds (`str` or a string-like class)? -/
def keyTypeOk (env : Env) : Ty → Bool
  | .str => true
  | .cls c => match env.find c with | some d => d.isStringLike | none => false
  | _ => false

def recDict (env : Env) (rec : Node → Ty → RecRes) (n : Node) (T keyTy valTy : Ty) : RecRes :=
  if !keyTypeOk env keyTy then .error .dictKey
  else match n with
    | .map _ ps _ => recDictPairs rec T keyTy valTy none ps.toList
    | _ => recFail [n.mark]

/-! ### unions -/

structure UnionAcc where
  types : List Ty
  causes : List (List Leaf)

def recUnionMembers (rec : Node → Ty → RecRes) (n : Node) : List Ty → UnionAcc → Except Fatal UnionAcc
  | [], acc => .ok acc
  | m :: ms, acc =>
    match rec n m with
    | .error e => .error e
    | .ok (ts, leaves) =>
      recUnionMembers rec n ms
        { types := unionT acc.types ts,
          causes := if ts.length == 0 then acc.causes ++ [leaves] else acc.causes }

def dropBoolFix (ts : List Ty) : List Ty :=
  if ts.contains .bool && ts.contains .boolFix then ts.filter (fun t => t != .boolFix) else ts

def recUnion (rec : Node → Ty → RecRes) (n : Node) (members : List Ty) : RecRes :=
  match recUnionMembers rec n members ⟨[], []⟩ with
  | .error e => .error e
  | .ok acc =>
    let ts := dropBoolFix acc.types
    if ts.length == 1 then .ok (ts, [okLeaf])
    else .ok (ts, leavesOf ⟨[n.mark], []⟩ acc.causes)

/-! ### custom recognisers: the `UnknownNode.require_*` helpers -/

/-- what a failing `require_*` cites in its RecognitionError message -/
abbrev Cited := List Mark × List String

def reqScalar (n : Node) (typs : List TypArg) : Except Fatal (Option Cited) :=
  match typs with
  | [] => .ok (if n.isScalarNode then none else some ([], []))
  | _ =>
    -- `is_scalar(typ)` raises ValueError for a type outside the table, but only on a scalar node
    let go := typs.foldl (fun (acc : Except Fatal Bool) t =>
      match acc with
      | .error e => .error e
      | .ok true => .ok true
      | .ok false =>
        match isScalar n t with
        | .ok b => .ok b
        | .error _ => .error .hook) (.ok false)
    match go with
    | .error e => .error e
    | .ok true => .ok none
    | .ok false => .ok (some ([], []))

def reqAttribute (rec : Node → Ty → RecRes) (n : Node) (a : String) (ty : Option Ty) :
    Except Fatal (Option Cited) :=
  match n with
  | .map _ ps _ =>
    match valuesOf ps.toList a with
    | [] => .ok (some ([], [a]))
    | v :: _ =>
      match ty with
      | none => .ok none
      | some T =>
        match rec v T with
        | .error e => .error e
        | .ok (ts, leaves) =>
          if ts.length == 0 then .ok (some (leaves.flatMap (·.marks), leaves.flatMap (·.keys)))
          else .ok none
  | _ => .ok (some ([], []))

/-- `node.get_value() != value` on a scalar whose tag matches `type(value)` -/
def scalarEquals (ext : Ext) (v : Node) (want : PyScalar) : Except Fatal (Option Bool) :=
  match isScalar v (match want with
      | .str _ => .str | .int _ => .int | .float _ _ => .float | .bool _ => .bool | .none => .none_) with
  | .ok true =>
    match getValue ext v with
    | .error _ => .ok (some false)       -- not a valid value for its tag: equal to nothing
    | .ok got =>
      match got, want with
      | .float r _, .float r' _ => .ok (some (floatReprEq r r'))
      | g, w => .ok (some (g == w))
  | _ => .ok none

def reqAttrValueLoop (ext : Ext) (a : String) (want : PyScalar) (neg : Bool) :
    List (Node × Node) → Bool → Except Fatal (Option Cited)
  | [], found => .ok (if found then none else some ([], [a]))
  | (k, v) :: rest, found =>
    if k.tag == tStr && k.keyIs a then
      match scalarEquals ext v want with
      | .error e => .error e
      | .ok none => if neg then .ok none else .ok (some ([], []))      -- wrong type
      | .ok (some eq) =>
        if neg then (if eq then .ok (some ([], [])) else reqAttrValueLoop ext a want neg rest true)
        else (if eq then reqAttrValueLoop ext a want neg rest true else .ok (some ([], [])))
    else reqAttrValueLoop ext a want neg rest found

def reqAttrValue (ext : Ext) (n : Node) (a : String) (want : PyScalar) (neg : Bool) :
    Except Fatal (Option Cited) :=
  match n with
  | .map _ ps _ => reqAttrValueLoop ext a want neg ps.toList false
  | _ => .ok (some ([], []))

/-- one step of a custom recogniser: `none` = returns normally, `some cited` = RecognitionError -/
def runRecOp (ext : Ext) (rec : Node → Ty → RecRes) (n : Node) : RecOp → Except Fatal (Option Cited)
  | .requireScalar typs => reqScalar n typs
  | .requireMapping => .ok (if n.isMapNode then none else some ([], []))
  | .requireSequence => .ok (if n.isSeqNode then none else some ([], []))
  | .requireAttribute a ty => reqAttribute rec n a ty
  | .requireAttributeValue a v => reqAttrValue ext n a v false
  | .requireAttributeValueNot a v => reqAttrValue ext n a v true
  | .raiseRecognition => .ok (some ([], []))
  | .raiseOther => .error .hook
  | .opaque f => .ok (if f n then none else some ([], []))

def runRecProg (ext : Ext) (rec : Node → Ty → RecRes) (n : Node) : List RecOp → Except Fatal (Option Cited)
  | [] => .ok none
  | op :: ops =>
    match runRecOp ext rec n op with
    | .error e => .error e
    | .ok (some c) => .ok (some c)
    | .ok none => runRecProg ext rec n ops

/-! ### one user class -/

/-- the recogniser says in which mapping a key is repeated (the innermost one: only the
`get_attribute` call is wrapped, not the recursive recognition) -/
def Fatal.atMapping (m : Mark) : Fatal → Fatal
  | .seasoning [] => .seasoning [m]
  | e => e

/-- only a `SeasoningError` is touched -/
theorem Fatal.atMapping_eq (m : Mark) (e f : Fatal) (hf : ∀ ms, f ≠ .seasoning ms) (h : e.atMapping m = f) :
    e = f := by
  unfold Fatal.atMapping at h
  split at h
  · exact absurd h.symm (hf _)
  · exact h

theorem Fatal.atMapping_hook (m : Mark) (e : Fatal) (h : e.atMapping m = .hook) : e = .hook :=
  Fatal.atMapping_eq m e _ (by simp) h
theorem Fatal.atMapping_fuel (m : Mark) (e : Fatal) (h : e.atMapping m = .fuel) : e = .fuel :=
  Fatal.atMapping_eq m e _ (by simp) h
theorem Fatal.atMapping_unregistered (m : Mark) (e : Fatal) (h : e.atMapping m = .unregistered) :
    e = .unregistered :=
  Fatal.atMapping_eq m e _ (by simp) h
theorem Fatal.atMapping_dictKey (m : Mark) (e : Fatal) (h : e.atMapping m = .dictKey) : e = .dictKey :=
  Fatal.atMapping_eq m e _ (by simp) h

/-- first key node whose value equals `name` (for the position of an attribute error) -/
def keyNodeOf (ps : List (Node × Node)) (name : String) : Option Node :=
  (ps.find? (fun p => p.1.keyIs name)).map (·.1)

def dashed (s : String) : String := replaceChar '_' '-' s

/-- try one spelling of an attribute name: `none` if the mapping has no such key -/
def tryAttrName (rec : Node → Ty → RecRes) (ps : List (Node × Node)) (ty : Ty) (name : String) :
    Option (Except Fatal (Option (List Leaf))) :=
  if hasKey ps name then
    some (match valuesOf ps name with
      | [v] =>
        (match rec v ty with
         | .error e => .error e
         | .ok (ts, leaves) => if ts.length == 0 then .ok (some leaves) else .ok none)
      | _ => .error (.seasoning []))
  else none

/-- recognition of one attribute of an auto-recognised class: exact name first, then dashed -/
def recAttr (rec : Node → Ty → RecRes) (n : Node) (ps : List (Node × Node)) (p : Param) :
    Except Fatal (Option (List Leaf)) :=
  match tryAttrName rec ps p.ty p.name with
  | some r => r
  | none =>
    match tryAttrName rec ps p.ty (dashed p.name) with
    | some r => r
    | none => if p.required then .ok (some [⟨[n.mark], [p.name]⟩]) else .ok none

def recAttrs (rec : Node → Ty → RecRes) (n : Node) (ps : List (Node × Node)) :
    List Param → Except Fatal (Option (List Leaf))
  | [] => .ok none
  | p :: rest =>
    match recAttr rec n ps p with
    | .error e => .error e
    | .ok (some leaves) => .ok (some leaves)
    | .ok none => recAttrs rec n ps rest

def recUserClass (env : Env) (rec : Node → Ty → RecRes) (n : Node) (d : ClassDef) : RecRes :=
  match d.recognize with
  | some prog =>
    match runRecProg env.ext rec n prog with
    | .error e => .error e
    | .ok none => recOk (.cls d.name)
    | .ok (some (marks, keys)) => recFail (n.mark :: marks) keys
  | none =>
    match d.kind with
    | .enum _ =>
      (match n with
       | .scalar t _ _ => if t == tStr || t == tBool then recOk (.cls d.name) else recFail [n.mark]
       | _ => recFail [n.mark])
    | .stringLike =>
      (match n with
       | .scalar t _ _ => if t == tStr then recOk (.cls d.name) else recFail [n.mark]
       | _ => recFail [n.mark])
    | .plain =>
      match n with
      | .map _ ps _ =>
        (match recAttrs rec n ps.toList d.params with
         | .error e => .error (e.atMapping n.mark)
         | .ok none => recOk (.cls d.name)
         | .ok (some leaves) => .ok ([], leaves))
      | _ => recFail [n.mark] ((d.params.filter (·.required)).map (·.name))

/-! ### the hierarchy: most derived matching classes -/

structure ClsAcc where
  types : List Ty
  causes : List (List Leaf)

def recSubclasses (recC : ClassDef → RecRes) : List ClassDef → ClsAcc → Except Fatal ClsAcc
  | [], acc => .ok acc
  | d :: ds, acc =>
    match recC d with
    | .error e => .error e
    | .ok (ts, leaves) =>
      recSubclasses recC ds
        { types := unionT acc.types ts,
          causes := if ts.length == 0 then acc.causes ++ [leaves] else acc.causes }

/-- the tail of `__recognize_user_classes`, once the candidate set is known -/
def finishClasses (env : Env) (n : Node) (top : Bool) (ts : List Ty) (causes : List (List Leaf)) : RecRes :=
  if ts.length == 0 then
    .ok ([], leavesOf ⟨if top || causes.length == 0 then [n.mark] else [], []⟩ causes)
  else if ts.length > 1 then
    match env.byTag n.tag with
    | some d => if ts.contains (.cls d.name) then recOk (.cls d.name)
                else .ok (ts, leavesOf ⟨[n.mark], []⟩ causes)
    | none => .ok (ts, leavesOf ⟨[n.mark], []⟩ causes)
  else if !hasPrefix "tag:yaml.org,2002" n.tag then
    match env.byTag n.tag with
    | some d => if ts.contains (.cls d.name) then .ok (ts, [okLeaf]) else recFail [n.mark]
    | none => recFail [n.mark]
  else .ok (ts, [okLeaf])

inductive Req where
  | ty (T : Ty)
  | classes (c : String) (top : Bool)

def recognizeReq (env : Env) : Nat → Node → Req → RecRes
  | 0, _, _ => .error .fuel
  | fuel + 1, n, .ty T =>
    let rec' := fun (x : Node) (U : Ty) => recognizeReq env fuel x (.ty U)
    match T with
    | .str => recScalar n T tStr
    | .int => recScalar n T tInt
    | .float => recScalar n T tFloat
    | .bool => recScalar n T tBool
    | .boolFix => recScalar n T tBool
    | .null => recScalar n T tNull
    | .date => recScalar n T tTimestamp
    | .path => recScalar n T tStr
    | .union ms => recUnion rec' n ms.toList
    | .seq _ item => recList rec' n T item
    | .map _ k v => recDict env rec' n T k v
    | .cls c => if env.isRegistered c then recognizeReq env fuel n (.classes c true) else .error .unregistered
    | .any => recOk .any
  | fuel + 1, n, .classes c top =>
    match env.find c with
    | none => .error .unregistered
    | some d =>
      let rec' := fun (x : Node) (U : Ty) => recognizeReq env fuel x (.ty U)
      match recSubclasses (fun s => recognizeReq env fuel n (.classes s.name false))
              (env.directSubclasses c) ⟨[], []⟩ with
      | .error e => .error e
      | .ok acc =>
        if acc.types.length == 0 then
          if d.abstract then finishClasses env n top [] acc.causes
          else
            match recUserClass env rec' n d with
            | .error e => .error e
            | .ok (ts, leaves) =>
              finishClasses env n top ts (if ts.length == 0 then acc.causes ++ [leaves] else acc.causes)
        else finishClasses env n top acc.types acc.causes

/-- `Recognizer.recognize(node, expected_type)` -/
def recognize (env : Env) (fuel : Nat) (n : Node) (T : Ty) : RecRes := recognizeReq env fuel n (.ty T)

end YatimlModel
